/-!
# Serde model (`#[derive(Serialize, Deserialize)]` on the five sampler structs)

Derive semantics for a self-describing format: a struct is a map holding **all** of its fields, in
declaration order, each under its own name; `Vec` is a sequence; numbers are exact (`f64` as its
bit pattern — the property quantifies over formats that preserve `f64` exactly).
-/
namespace Momtrop.Serde

inductive Val where
  | bool (b : Bool)
  | nat (n : Nat)
  | int (i : Int)
  | f64 (bits : UInt64)
  | seq (l : List Val)
  | map (l : List (String × Val))

structure SerEdge where
  edgeId : Nat
  left : Nat
  right : Nat
  weight : UInt64
  isMassive : Bool

structure SerGraph where
  dod : UInt64
  topology : List SerEdge
  numMassive : Nat
  externals : List Nat
  numLoops : Nat

structure SerEntry where
  loopNumber : Nat
  mms : Bool
  j : UInt64
  dod : UInt64

structure SerTable where
  table : List SerEntry
  dimension : Nat
  graph : SerGraph
  cached : UInt64

structure SerGen where
  signature : List (List Int)
  table : SerTable

/-! field names and types, in declaration order, as they stood in the source when this model was written (the schema
regenerated from the source on every run is `Generated/SerdeSchema.lean`, which `Props/C18G.lean` is about) -/
def edgeFields : List (String × String) :=
  [("edge_id", "u8"), ("left", "u8"), ("right", "u8"), ("weight", "f64"), ("is_massive", "bool")]
def graphFields : List (String × String) :=
  [("dod", "f64"), ("topology", "Vec<TropicalEdge>"), ("num_massive_edges", "usize"),
   ("external_vertices", "Vec<u8>"), ("num_loops", "usize")]
def entryFields : List (String × String) :=
  [("loop_number", "u8"), ("mass_momentum_spanning", "bool"), ("j_function", "f64"), ("generalized_dod", "f64")]
def tableFields : List (String × String) :=
  [("table", "Vec<TropicalSubgraphTableEntry>"), ("dimension", "usize"), ("tropical_graph", "TropicalGraph"),
   ("cached_factor", "f64")]
def genFields : List (String × String) :=
  [("loop_signature", "Vec<Vec<isize>>"), ("table", "TropicalSubgraphTable")]

def modelSchema : List (String × List (String × String)) :=
  [("SampleGenerator", genFields), ("TropicalSubgraphTable", tableFields),
   ("TropicalSubgraphTableEntry", entryFields), ("TropicalGraph", graphFields), ("TropicalEdge", edgeFields)]

/-- a struct as a map: the field names zipped with the encoded field values -/
def struct (fields : List (String × String)) (vals : List Val) : Val :=
  Val.map ((fields.map (·.1)).zip vals)

def encEdge (e : SerEdge) : Val :=
  struct edgeFields [.nat e.edgeId, .nat e.left, .nat e.right, .f64 e.weight, .bool e.isMassive]
def encGraph (g : SerGraph) : Val :=
  struct graphFields [.f64 g.dod, .seq (g.topology.map encEdge), .nat g.numMassive,
    .seq (g.externals.map Val.nat), .nat g.numLoops]
def encEntry (e : SerEntry) : Val :=
  struct entryFields [.nat e.loopNumber, .bool e.mms, .f64 e.j, .f64 e.dod]
def encTable (t : SerTable) : Val :=
  struct tableFields [.seq (t.table.map encEntry), .nat t.dimension, encGraph t.graph, .f64 t.cached]
def encGen (g : SerGen) : Val :=
  struct genFields [.seq (g.signature.map fun r => .seq (r.map Val.int)), encTable g.table]

def decNat : Val → Option Nat | .nat n => some n | _ => none
def decInt : Val → Option Int | .int i => some i | _ => none
def decSeq (f : Val → Option α) : Val → Option (List α) | .seq l => l.mapM f | _ => none

def decEdge : Val → Option SerEdge
  | .map [("edge_id", .nat a), ("left", .nat b), ("right", .nat c), ("weight", .f64 w), ("is_massive", .bool m)] =>
    some ⟨a, b, c, w, m⟩
  | _ => none
def decGraph : Val → Option SerGraph
  | .map [("dod", .f64 d), ("topology", top), ("num_massive_edges", .nat nm), ("external_vertices", ext),
          ("num_loops", .nat nl)] => do
    let t ← decSeq decEdge top
    let e ← decSeq decNat ext
    some ⟨d, t, nm, e, nl⟩
  | _ => none
def decEntry : Val → Option SerEntry
  | .map [("loop_number", .nat l), ("mass_momentum_spanning", .bool m), ("j_function", .f64 j),
          ("generalized_dod", .f64 d)] => some ⟨l, m, j, d⟩
  | _ => none
def decTable : Val → Option SerTable
  | .map [("table", tab), ("dimension", .nat dim), ("tropical_graph", g), ("cached_factor", .f64 c)] => do
    let t ← decSeq decEntry tab
    let gr ← decGraph g
    some ⟨t, dim, gr, c⟩
  | _ => none
def decGen : Val → Option SerGen
  | .map [("loop_signature", sig), ("table", tab)] => do
    let s ← decSeq (decSeq decInt) sig
    let t ← decTable tab
    some ⟨s, t⟩
  | _ => none

end Momtrop.Serde
