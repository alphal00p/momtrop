import Momtrop.Model.Scalar
import Momtrop.Model.Mask
/-!
# Graph preprocessing (`/repo/src/preprocessing.rs:11-213`)

`TropicalGraph`, connected components by edge-adjacency search, loop number, mass-momentum
spanning. Hash sets of the implementation are modelled as duplicate-free lists: the code uses them
only for membership, insertion and cardinality (the result does not depend on any iteration order
because none is ever observed: the resulting sets are turned into bit masks; cf. `loopNumber_perm`).
-/
namespace Momtrop
open Scalar

/-- `TropicalEdge` (`edge_id` is the position in the list) -/
structure TEdge (α : Type) where
  left : Nat
  right : Nat
  weight : α
  massive : Bool

/-- `TropicalGraph` -/
structure TGraph (α : Type) where
  dod : α
  topology : List (TEdge α)
  numMassive : Nat
  externals : List Nat
  numLoops : Nat

/-- The input `Graph` of `lib.rs:70-81`. -/
structure InGraph (α : Type) where
  edges : List (TEdge α)
  externals : List Nat

section
variable {α : Type}

/-- End points of edge `e` (`(0,0)` outside the list; the code would panic there). -/
def endsOf (top : List (TEdge α)) (e : Nat) : Nat × Nat :=
  match top[e]? with
  | some t => (t.left, t.right)
  | none => (0, 0)

/-- `TropicalEdge::contains_vertex` -/
def containsVertex (top : List (TEdge α)) (e v : Nat) : Bool :=
  (endsOf top e).1 == v || (endsOf top e).2 == v

/-- `are_neighbours(e, f)` (`preprocessing.rs:210-213`) -/
def adj (top : List (TEdge α)) (e f : Nat) : Bool :=
  containsVertex top e (endsOf top f).1 || containsVertex top e (endsOf top f).2

/-- One search round at the level of sets: every edge of `s` adjacent to a member of `comp`
(`preprocessing.rs:116-130`; `comp ⊆ grow comp` because every edge is its own neighbour). -/
def grow (top : List (TEdge α)) (s comp : List Nat) : List Nat :=
  s.filter fun f => comp.any fun e => adj top e f

/-- Iterate until the component stops growing (`preprocessing.rs:110-133`). -/
def closure (top : List (TEdge α)) (s : List Nat) : Nat → List Nat → List Nat
  | 0, comp => comp
  | fuel + 1, comp =>
    let next := grow top s comp
    if next.length = comp.length then comp else closure top s fuel next

/-- Outer loop: seed = first edge of `s` not yet visited (`preprocessing.rs:104-108,134-143`). -/
def compsLoop (top : List (TEdge α)) (s : List Nat) : Nat → List Nat → List (List Nat)
  | 0, _ => []
  | fuel + 1, visited =>
    match s.find? (fun e => !visited.contains e) with
    | none => []
    | some seed =>
      let c := closure top s (s.length + 1) [seed]
      c :: compsLoop top s fuel (visited ++ c)

/-- `get_connected_components`, as edge lists in discovery order. -/
def componentLists (top : List (TEdge α)) (s : List Nat) : List (List Nat) :=
  compsLoop top s s.length []

/-- `get_connected_components`: bit masks in discovery order. -/
def components (top : List (TEdge α)) (s : List Nat) : List Mask :=
  (componentLists top s).map Mask.ofList

/-- distinct end points of the edges in `c` -/
def vertexSet (top : List (TEdge α)) (c : List Nat) : List Nat :=
  (c.flatMap fun e => [(endsOf top e).1, (endsOf top e).2]).eraseDups

/-- `get_loop_number_of_connected_component`: `1 + edges - vertices` -/
def loopNumberComp (top : List (TEdge α)) (c : Mask) : Nat :=
  let es := Mask.edges top.length c
  1 + es.length - (vertexSet top es).length

/-- `get_loop_number` -/
def loopNumber (top : List (TEdge α)) (s : List Nat) : Nat :=
  ((components top s).map (loopNumberComp top)).sum

/-- is edge `e` massive -/
def isMassive (top : List (TEdge α)) (e : Nat) : Bool :=
  match top[e]? with
  | some t => t.massive
  | none => false

/-- `is_mass_momentum_spanning` (`preprocessing.rs:71-90`) -/
def isMMSpanning (top : List (TEdge α)) (numMassive : Nat) (externals : List Nat)
    (s : List Nat) : Bool :=
  let isMassSpanning := (s.filter (isMassive top)).length == numMassive
  let isMomentumSpanning := (components top s).any fun c =>
    externals.all fun v => (Mask.edges top.length c).any fun i => containsVertex top i v
  isMassSpanning && isMomentumSpanning

end

section
variable {α : Type} [Scalar α]

/-- `compute_weight_sum`: `Iterator::sum` of the weights in list order -/
def weightSum (top : List (TEdge α)) (s : List Nat) : α :=
  sumIter (s.map fun i => match top[i]? with | some t => t.weight | none => zero)

/-- `TropicalGraph::from_graph` (`preprocessing.rs:21-61`) -/
def fromGraph (G : InGraph α) (D : Nat) : TGraph α :=
  let top := G.edges
  let all := List.range top.length
  let ws := weightSum top all
  let L := loopNumber top all
  { dod := ws - (ofInt L * ofInt D) / ofInt 2
    topology := top
    numMassive := (top.filter (·.massive)).length
    externals := G.externals
    numLoops := L }

end
end Momtrop
