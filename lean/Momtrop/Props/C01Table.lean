import Momtrop.Props.C01Sector
import Momtrop.Props.C03R
/-!
# C01 — the sector-density theorem on the model's own subgraph table

`C01.tropical_sampling` (C01Sector) with `ω`, loop number and spanning flag taken from the entries `preEntry G D m` that `generate_from_tropical`
stores, the weight of a step being that of the removed edge. `Consistent` holds along EVERY complete removal order by
`C03.genDod_pop_bool` (the table's formula for one removal, the last one included), given two facts about graphs (`RemovalFacts`). Both
are proved in the second part of this file; they are also checked on the implementation's flags for all subsets of all small multigraphs
in the C03 check.
-/
namespace Momtrop.C01

section
open scoped ENNReal
open Scalar

/-- the table's generalised degree of divergence, loop number and spanning flag of subset `m` -/
noncomputable def omegaT (G : TGraph ℝ) (D : Nat) (m : Mask) : ℝ := (preEntry G D m).2.2
noncomputable def loopsT (G : TGraph ℝ) (D : Nat) (m : Mask) : Nat := (preEntry G D m).2.1
noncomputable def spanT (G : TGraph ℝ) (D : Nat) (m : Mask) : Bool := (preEntry G D m).1
noncomputable def weightOf (G : TGraph ℝ) (e : Nat) : ℝ := match G.topology[e]? with | some t => t.weight | none => (0:ℝ)

/-- the two graph facts the sector density rests on (hypotheses; see the file header) -/
structure RemovalFacts (G : TGraph ℝ) (D : Nat) : Prop where
  loops : ∀ g e, e ∈ Mask.edges G.topology.length g →
    loopsT G D g = loopsT G D (Mask.pop g e) ∨ loopsT G D g = loopsT G D (Mask.pop g e) + 1
  span : ∀ g e, e ∈ Mask.edges G.topology.length g → spanT G D (Mask.pop g e) = true → spanT G D g = true

/-- step data of the removals `σ` from `g`, read off the table -/
noncomputable def stepsAlong (G : TGraph ℝ) (D : Nat) : Mask → List Nat → List StepData
  | _, [] => []
  | g, e :: σ => ⟨weightOf G e, decide (loopsT G D g ≠ loopsT G D (Mask.pop g e)), spanT G D g && !spanT G D (Mask.pop g e)⟩
      :: stepsAlong G D (Mask.pop g e) σ

theorem omegaT_zero (G : TGraph ℝ) (D : Nat) : omegaT G D 0 = 1 := by
  unfold omegaT
  rw [C03.genDod_empty, one_real]

/-- after the last removal `0` stands for `ω`, as `Consistent` asks; the table stores `ω(∅) = 1` (`omegaT_zero`) -/
theorem omegaT_pop (G : TGraph ℝ) (D : Nat) (F : RemovalFacts G D) (g : Mask) (e : Nat)
    (he : e ∈ Mask.edges G.topology.length g) (hg : g ≠ 0) :
    omegaT G D g - (if Mask.pop g e = 0 then 0 else omegaT G D (Mask.pop g e))
      = weightOf G e - (D : ℝ) / 2 * (if decide (loopsT G D g ≠ loopsT G D (Mask.pop g e)) then 1 else 0)
        - G.dod * (if (spanT G D g && !spanT G D (Mask.pop g e)) then 1 else 0) := by
  have h := C03.genDod_pop_bool G D g e he (F.loops g e he) (F.span g e he)
  rwa [if_neg hg] at h

/-- the premise of the sector density, for every complete removal order of every non-empty subset; the `ω`'s are
`ω(g), ω(g∖s_1), …, ω(single last edge)` -/
theorem consistent_along (G : TGraph ℝ) (D : Nat) (F : RemovalFacts G D) :
    ∀ (σ : List Nat) (g : Mask), g < 2 ^ G.topology.length → g ≠ 0 → σ.Perm (Mask.edges G.topology.length g) →
      Consistent ((D : ℝ) / 2) G.dod (omegaT G D g :: (omegasAlong (omegaT G D) g σ).dropLast) (stepsAlong G D g σ) := by
  intro σ
  induction σ with
  | nil =>
    intro g hg h0 hp
    exact absurd ((Mask.perm_edges_nil_iff hg hp).mp rfl) h0
  | cons e τ ih =>
    intro g hg h0 hp
    obtain ⟨he, hlt, hτ, hz⟩ := Mask.perm_pop hg hp
    have h := omegaT_pop G D F g e he h0
    rw [stepsAlong, consistent_cons]
    cases τ with
    | nil =>
      rw [if_pos (hz.mp rfl)] at h
      exact ⟨h, trivial⟩
    | cons e' τ' =>
      have hne : Mask.pop g e ≠ 0 := mt hz.mpr (List.cons_ne_nil _ _)
      rw [if_neg hne] at h
      exact ⟨h, ih (Mask.pop g e) hlt hne hτ⟩

/-- step data that go with `sectorOmegas`: those of the removals after the first (the parameter of `s_1` is the scale `y_0 = 1`) -/
noncomputable def sectorSteps (G : TGraph ℝ) (D : Nat) (g : Mask) : List Nat → List StepData
  | [] => []
  | s :: rest => stepsAlong G D (Mask.pop g s) rest

theorem sector_consistent (G : TGraph ℝ) (D : Nat) (F : RemovalFacts G D) (g : Mask) (hg : g < 2 ^ G.topology.length)
    (σ : List Nat) (hp : σ.Perm (Mask.edges G.topology.length g)) :
    Consistent ((D : ℝ) / 2) G.dod (sectorOmegas (omegaT G D) g σ) (sectorSteps G D g σ) := by
  cases σ with
  | nil => exact trivial
  | cons s rest =>
    obtain ⟨_, hlt, hrest, hz⟩ := Mask.perm_pop hg hp
    cases rest with
    | nil => exact trivial
    | cons e' τ' =>
      exact consistent_along G D F (e' :: τ') (Mask.pop g s) hlt (mt hz.mpr (List.cons_ne_nil _ _)) hrest

theorem omegasAlong_getLast (omega : Mask → ℝ) : ∀ (σ : List Nat) (g : Mask) (h : omegasAlong omega g σ ≠ []),
    (omegasAlong omega g σ).getLast h = omega (σ.foldl Mask.pop g) := by
  intro σ
  induction σ with
  | nil => intro g h; exact absurd rfl h
  | cons e τ ih =>
    intro g h
    cases τ with
    | nil => rfl
    | cons e' τ' =>
      exact (List.getLast_cons (List.cons_ne_nil _ _)).trans (ih (Mask.pop g e) (List.cons_ne_nil _ _))

theorem mem_dropLast_omegasAlong (omega : Mask → ℝ) (n : Nat) : ∀ (σ : List Nat) (g : Mask), g < 2 ^ n → σ.Perm (Mask.edges n g) →
    ∀ x ∈ (omegasAlong omega g σ).dropLast, ∃ m, m ≠ 0 ∧ m < 2 ^ n ∧ card n m < card n g ∧ x = omega m := by
  intro σ
  induction σ with
  | nil => intro g _ _ x hx; exact absurd hx List.not_mem_nil
  | cons e τ ih =>
    intro g hg hp x hx
    obtain ⟨he, hlt, hτ, hz⟩ := Mask.perm_pop hg hp
    have hcard : card n (Mask.pop g e) < card n g := (card_pop he).le
    cases τ with
    | nil => exact absurd hx List.not_mem_nil
    | cons e' τ' =>
      rcases List.mem_cons.mp hx with rfl | hx'
      · exact ⟨Mask.pop g e, mt hz.mpr (List.cons_ne_nil _ _), hlt, hcard, rfl⟩
      · obtain ⟨m, h1, h2, h3, h4⟩ := ih (Mask.pop g e) hlt hτ x hx'
        exact ⟨m, h1, h2, h3.trans hcard, h4⟩

/-- `tropical_sampling` on the table `preEntry G D ·`, accepted (every `J ≠ 0`, `J(g) > 0`, `ω > 0` on the non-empty subsets with fewer
edges than `g`): probabilities from the table's `J` and `ω`, step weights, loop drops and spanning losses read off the table. -/
theorem tropical_sampling_table (G : TGraph ℝ) (D : Nat) (F : RemovalFacts G D) (g : Mask) (hg : g < 2 ^ G.topology.length)
    (hJ : ∀ h, h < 2 ^ G.topology.length → Jval (omegaT G D) G.topology.length h ≠ 0)
    (hJg : 0 < Jval (omegaT G D) G.topology.length g)
    (hω : ∀ m, m ≠ 0 → m < 2 ^ G.topology.length → card G.topology.length m < card G.topology.length g → 0 < omegaT G D m)
    (f : List Nat → List ℝ → ℝ≥0∞) :
    ((C04.orderingsAux (card G.topology.length g) (Mask.edges G.topology.length g)).map fun σ =>
        ENNReal.ofReal (C04.orderProb (omegaT G D) G.topology.length g σ) * chainInt (sectorOmegas (omegaT G D) g σ) 1 (f σ)).sum
      = ((C04.orderingsAux (card G.topology.length g) (Mask.edges G.topology.length g)).map fun σ =>
          nested (sectorOmegas (omegaT G D) g σ) 1 fun ys =>
            ENNReal.ofReal (weightProd (sectorSteps G D g σ) ys
              / ((uTrop (sectorSteps G D g σ) ys) ^ ((D : ℝ) / 2) * (vTrop (sectorSteps G D g σ) ys) ^ G.dod)
              / Jval (omegaT G D) G.topology.length g) * f σ ys).sum := by
  apply tropical_sampling (omegaT G D) G.topology.length hJ g hg hJg ((D : ℝ) / 2) G.dod (sectorSteps G D g) f
  · intro σ hσ h
    rw [omegasAlong_getLast, C04.complete_order_exhausts G.topology.length g hg σ hσ, omegaT_zero]
  · intro σ hσ x hx
    have hp := C04.orderingsAux_perm (card G.topology.length g) (Mask.edges G.topology.length g) σ rfl hσ
    obtain ⟨m, h1, h2, h3, rfl⟩ := mem_dropLast_omegasAlong (omegaT G D) G.topology.length σ g hg hp x hx
    exact hω m h1 h2 h3
  · intro σ hσ
    exact sector_consistent G D F g hg σ
      (C04.orderingsAux_perm (card G.topology.length g) (Mask.edges G.topology.length g) σ rfl hσ)

end

/-!
## The two removal facts

The spanning flag can only be lost (`isMMSpanning_mono`, `Proofs/Spanning.lean`) in a table whose `numMassive` is the number of its massive
edges, which is what `from_graph` computes. A removal lowers the loop number by 0 or 1 (`Momtrop.loopNumber_erase`, `Proofs/LoopStep.lean`).
-/

theorem spanT_mono (G : TGraph ℝ) (D : Nat)
    (hnm : G.numMassive = ((List.range G.topology.length).filter (isMassive G.topology)).length)
    (g : Mask) (e : Nat) (he : e ∈ Mask.edges G.topology.length g) (h : spanT G D (Mask.pop g e) = true) :
    spanT G D g = true := by
  unfold spanT at *
  rw [(C03.preEntry_flags G D _).2] at h ⊢
  refine isMMSpanning_mono _ _ _ _ _ hnm (Mask.edges_nodup _ _) (Mask.edges_nodup _ _) (fun x hx => ?_)
    (fun x hx => (Mask.mem_edges.mp hx).1) h
  rw [Mask.edges_pop_erase _ g e he] at hx
  exact List.mem_of_mem_erase hx

theorem removalFacts_of_loops (G : TGraph ℝ) (D : Nat)
    (hnm : G.numMassive = ((List.range G.topology.length).filter (isMassive G.topology)).length)
    (hloops : ∀ g e, e ∈ Mask.edges G.topology.length g →
      loopsT G D g = loopsT G D (Mask.pop g e) ∨ loopsT G D g = loopsT G D (Mask.pop g e) + 1) :
    RemovalFacts G D :=
  ⟨hloops, fun g e he h => spanT_mono G D hnm g e he h⟩

theorem loopsT_step (G : TGraph ℝ) (D : Nat) (g : Mask) (e : Nat) (he : e ∈ Mask.edges G.topology.length g) :
    loopsT G D g = loopsT G D (Mask.pop g e) ∨ loopsT G D g = loopsT G D (Mask.pop g e) + 1 := by
  unfold loopsT
  rw [(C03.preEntry_flags G D _).1, (C03.preEntry_flags G D _).1, Mask.edges_pop_erase _ g e he]
  exact loopNumber_erase G.topology _ (Mask.edges_nodup _ _) (fun x hx => (Mask.mem_edges.mp hx).1) e he

/-- both removal facts hold for every table `from_graph` can build -/
theorem removalFacts (G : TGraph ℝ) (D : Nat)
    (hnm : G.numMassive = ((List.range G.topology.length).filter (isMassive G.topology)).length) : RemovalFacts G D :=
  removalFacts_of_loops G D hnm (fun g e he => loopsT_step G D g e he)

theorem fromGraph_numMassive (Gin : InGraph ℝ) (D : Nat) :
    (fromGraph Gin D).numMassive
      = ((List.range (fromGraph Gin D).topology.length).filter (isMassive (fromGraph Gin D).topology)).length :=
  (massive_count_range Gin.edges).symm

theorem removalFacts_fromGraph (Gin : InGraph ℝ) (D : Nat) : RemovalFacts (fromGraph Gin D) D :=
  removalFacts _ D (fromGraph_numMassive Gin D)

open scoped ENNReal in
/-- the same with no graph fact assumed -/
theorem tropical_sampling_model (G : TGraph ℝ) (D : Nat)
    (hnm : G.numMassive = ((List.range G.topology.length).filter (isMassive G.topology)).length)
    (g : Mask) (hg : g < 2 ^ G.topology.length)
    (hJ : ∀ h, h < 2 ^ G.topology.length → Jval (omegaT G D) G.topology.length h ≠ 0)
    (hJg : 0 < Jval (omegaT G D) G.topology.length g)
    (hω : ∀ m, m ≠ 0 → m < 2 ^ G.topology.length → card G.topology.length m < card G.topology.length g → 0 < omegaT G D m)
    (f : List Nat → List ℝ → ℝ≥0∞) :
    ((C04.orderingsAux (card G.topology.length g) (Mask.edges G.topology.length g)).map fun σ =>
        ENNReal.ofReal (C04.orderProb (omegaT G D) G.topology.length g σ) * chainInt (sectorOmegas (omegaT G D) g σ) 1 (f σ)).sum
      = ((C04.orderingsAux (card G.topology.length g) (Mask.edges G.topology.length g)).map fun σ =>
          nested (sectorOmegas (omegaT G D) g σ) 1 fun ys =>
            ENNReal.ofReal (weightProd (sectorSteps G D g σ) ys
              / ((uTrop (sectorSteps G D g σ) ys) ^ ((D : ℝ) / 2) * (vTrop (sectorSteps G D g σ) ys) ^ G.dod)
              / Jval (omegaT G D) G.topology.length g) * f σ ys).sum :=
  tropical_sampling_table G D (removalFacts G D hnm) g hg hJ hJg hω f

end Momtrop.C01
