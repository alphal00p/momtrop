import Momtrop.Proofs.JFun
import Momtrop.Proofs.TableLemmas
import Momtrop.Proofs.RealInst
/-!
# C04 — the J function obeys its recursion; I_tr and the cached normalisation follow

`S` (law-free, hence the IEEE computation with its summation order): memoisation soundness; the recursion itself, `C04.J_rec`,
stands in `Proofs/JFun.lean`. `R` (exact arithmetic): edge probabilities, cached factor, `J` as a sum over removal orders.
-/
namespace Momtrop.C04
open Scalar

section S
variable {α : Type} [Scalar α]

/-- After the top-level call of `recursive_fill_j_function` on the full graph every subset id holds the value of the
direct recursion, summed in the same order (so bit-identical for floats). -/
theorem memo_sound (omega : Mask → α) (n : Nat) (g : Mask) (hg : g < 2 ^ n) :
    (fillJ omega n n (Mask.full n) (List.replicate (2 ^ n) none)).2.getD g none
      = some (Jval omega n g) := by
  have post := fillJ_spec omega n n (Mask.full n) _ (Mask.full_lt n) (Nat.le_of_eq (card_full n))
    (inv_replicate omega n)
  have := post.inv.closed (Mask.full n) g (Mask.full_lt n) (by rw [post.stored]; rfl) (sub_full hg)
  obtain ⟨j, hj⟩ := Option.isSome_iff_exists.mp this
  rw [hj, post.inv.ok g j hj]

theorem J_empty (omega : Mask → α) (n : Nat) : Jval omega n 0 = one := Jval_zero omega n

/-- the table built by `generate_from_tropical` stores `J` of every subset -/
theorem table_j (Γ : α → α) (G : TGraph α) (D : Nat) (T : Table α) (h : generateTable Γ G D = .ok T)
    (g : Mask) (hg : g < 2 ^ G.topology.length) :
    ∃ e, T.entries[g]? = some e ∧
      e.j = Jval (omegaOf ((List.range (2 ^ G.topology.length)).map (preEntry G D))) G.topology.length g := by
  obtain ⟨e, he, _, _, _, hj⟩ := (generateTable_ok Γ G D T h).2.2.2.2 g hg
  exact ⟨e, he, by rw [hj, memo_sound _ _ g hg]; rfl⟩

end S

section R

theorem sum_map_div {β : Type} (l : List β) (f : β → ℝ) (c : ℝ) :
    (l.map fun e => f e / c).sum = (l.map f).sum / c := by
  simp only [div_eq_mul_inv, List.sum_map_mul_right]

/-- the probabilities with which `sample_edge` selects an edge of `g` sum to one (exact arithmetic) -/
theorem edge_probs_sum_one (omega : Mask → ℝ) (n : Nat) (g : Mask) (hg : g < 2 ^ n) (h0 : g ≠ 0)
    (hJ : Jval omega n g ≠ 0) :
    ((Mask.edges n g).map fun e => Jval omega n (Mask.pop g e) / Jval omega n g / omega (Mask.pop g e)).sum = 1 := by
  have hrec := J_rec omega n g hg h0
  rw [sumIter_eq] at hrec
  simp only [div_right_comm _ (Jval omega n g)]
  rw [sum_map_div, ← hrec, div_self hJ]

/-- the value of `cached_factor` in exact arithmetic -/
theorem cachedFactor_eq (Γ : ℝ → ℝ) (G : TGraph ℝ) (D : Nat) (iTr : ℝ) :
    cachedFactor Γ G D iTr
      = iTr * (Γ G.dod / (G.topology.map fun e => Γ e.weight).prod) * Real.pi ^ (((D * G.numLoops : Nat) : ℝ) / 2) := by
  unfold cachedFactor
  simp only [prodIter_eq, powf_real, pi_real, ofInt_real, Int.cast_mul, Int.cast_natCast, Int.cast_ofNat, Nat.cast_mul]

end R

/-! ## `J(g)` is the sum over all orderings of the edges of `g`; the probability of a removal order (exact arithmetic) -/

/-- all orderings of a list of `k` elements: pick the first element, then order the rest -/
def orderingsAux : Nat → List Nat → List (List Nat)
  | 0, _ => [[]]
  | k + 1, l => l.flatMap fun e => (orderingsAux k (l.erase e)).map fun σ => e :: σ

/-- all removal orders of the edges in `l` -/
def orderings (l : List Nat) : List (List Nat) := orderingsAux l.length l

/-- the weight of one removal order: `Π_k 1/ω(g minus the first k+1 removed edges)` -/
noncomputable def orderWeight (omega : Mask → ℝ) : Mask → List Nat → ℝ
  | _, [] => 1
  | g, e :: σ => 1 / omega (Mask.pop g e) * orderWeight omega (Mask.pop g e) σ

theorem J_eq_sum_orderings (omega : Mask → ℝ) (n : Nat) :
    ∀ (k : Nat) (g : Mask), g < 2 ^ n → card n g = k →
      Jval omega n g = ((orderingsAux k (Mask.edges n g)).map (orderWeight omega g)).sum := by
  refine card_induction (by simp [J_empty, orderingsAux, orderWeight]) fun k g hg h0 _ ih => ?_
  rw [J_rec omega n g hg h0, sumIter_eq, orderingsAux, List.map_flatMap, List.flatMap_def, List.sum_flatten,
    List.map_map]
  congr 1
  apply List.map_congr_left
  intro e he
  -- the orderings that start with `e` carry the common factor `1/ω(g∖e)`
  rw [ih e he, Mask.edges_pop_erase n g e he, Function.comp_apply, List.map_map, div_eq_mul_one_div, mul_comm,
    ← List.sum_map_mul_left]
  rfl

theorem J_full_eq_sum_orderings (omega : Mask → ℝ) (n : Nat) :
    Jval omega n (Mask.full n)
      = ((orderings (List.range n)).map (orderWeight omega (Mask.full n))).sum := by
  have := J_eq_sum_orderings omega n n (Mask.full n) (Mask.full_lt n) (card_full n)
  rw [Mask.edges_full] at this
  rw [this]; simp [orderings]

theorem orderingsAux_length : ∀ (k : Nat) (l : List Nat), l.length = k → (orderingsAux k l).length = k.factorial := by
  intro k
  induction k with
  | zero => intro l _; simp [orderingsAux]
  | succ k ih =>
    intro l hl
    simp only [orderingsAux, List.length_flatMap, List.length_map]
    have : (l.map fun e => (orderingsAux k (l.erase e)).length) = l.map fun _ => k.factorial := by
      apply List.map_congr_left
      intro e he
      exact ih _ (by rw [List.length_erase_of_mem he, hl]; rfl)
    rw [this]
    simp [hl, Nat.factorial_succ]

theorem orderingsAux_perm : ∀ (k : Nat) (l σ : List Nat), l.length = k → σ ∈ orderingsAux k l → σ.Perm l := by
  intro k
  induction k with
  | zero =>
    intro l σ hl h
    obtain rfl := List.eq_nil_of_length_eq_zero hl
    obtain rfl := List.mem_singleton.mp h
    exact .refl _
  | succ k ih =>
    intro l σ hl h
    simp only [orderingsAux, List.mem_flatMap, List.mem_map] at h
    obtain ⟨e, he, τ, hτ, rfl⟩ := h
    have := ih (l.erase e) τ (by rw [List.length_erase_of_mem he, hl]; rfl) hτ
    exact (List.Perm.cons e this).trans (List.perm_cons_erase he).symm

/-- with `orderingsAux_length` (`k!`) and `orderingsAux_perm`: the orderings are all permutations, each exactly once -/
theorem orderingsAux_nodup : ∀ (k : Nat) (l : List Nat), l.length = k → l.Nodup → (orderingsAux k l).Nodup := by
  intro k
  induction k with
  | zero => intro l _ _; simp [orderingsAux]
  | succ k ih =>
    intro l hl hnd
    rw [orderingsAux, List.nodup_flatMap]
    refine ⟨fun e he => ?_, hnd.imp fun hab σ h1 h2 => ?_⟩
    · exact (ih _ (by rw [List.length_erase_of_mem he, hl]; rfl) (hnd.erase e)).map List.cons_injective
    · obtain ⟨τ1, _, rfl⟩ := List.mem_map.mp h1
      obtain ⟨τ2, _, h⟩ := List.mem_map.mp h2
      exact hab (List.head_eq_of_cons_eq h).symm

/-- probability that the sampler removes the edges of `σ` from `g` in this order: the product of the step probabilities (C06) -/
noncomputable def orderProb (omega : Mask → ℝ) (n : Nat) : Mask → List Nat → ℝ
  | _, [] => 1
  | g, e :: σ => Jval omega n (Mask.pop g e) / Jval omega n g / omega (Mask.pop g e) * orderProb omega n (Mask.pop g e) σ

/-- Telescoping: the probability of a removal order is its weight `Π 1/ω` times `J(what is left)/J(g)`. -/
theorem orderProb_eq (omega : Mask → ℝ) (n : Nat) (hJ : ∀ h, h < 2 ^ n → Jval omega n h ≠ 0) :
    ∀ (σ : List Nat) (g : Mask), g < 2 ^ n → (∀ e ∈ σ, e < n) →
      orderProb omega n g σ = orderWeight omega g σ * Jval omega n (σ.foldl Mask.pop g) / Jval omega n g := by
  intro σ
  induction σ with
  | nil => intro g hg _; simp [orderProb, orderWeight, hJ g hg]
  | cons e σ ih =>
    intro g hg hσ
    have hlt : Mask.pop g e < 2 ^ n := Mask.pop_lt hg (hσ e List.mem_cons_self)
    simp only [orderProb, orderWeight, List.foldl_cons]
    rw [ih (Mask.pop g e) hlt (fun f hf => hσ f (List.mem_cons_of_mem _ hf))]
    -- `J(g∖e)` cancels between the step probability and the tail
    rw [show ∀ a b c d f : ℝ, a / b / c * (d * f / a) = a / a * (1 / c * d * f / b) from fun a b c d f => by ring,
      div_self (hJ (Mask.pop g e) hlt), one_mul]

theorem complete_order_exhausts (n : Nat) (g : Mask) (hg : g < 2 ^ n) (σ : List Nat)
    (hσ : σ ∈ orderingsAux (card n g) (Mask.edges n g)) : σ.foldl Mask.pop g = 0 :=
  Mask.foldl_pop_perm σ g hg (orderingsAux_perm (card n g) (Mask.edges n g) σ rfl hσ)

theorem orderProb_complete (omega : Mask → ℝ) (n : Nat) (hJ : ∀ h, h < 2 ^ n → Jval omega n h ≠ 0)
    (g : Mask) (hg : g < 2 ^ n) (σ : List Nat) (hσ : σ ∈ orderingsAux (card n g) (Mask.edges n g)) :
    orderProb omega n g σ = orderWeight omega g σ / Jval omega n g := by
  have hlt : ∀ e ∈ σ, e < n := fun e he =>
    (Mask.mem_edges.mp ((orderingsAux_perm (card n g) (Mask.edges n g) σ rfl hσ).mem_iff.mp he)).1
  rw [orderProb_eq omega n hJ σ g hg hlt, complete_order_exhausts n g hg σ hσ, J_empty, one_real, mul_one]

/-- the sector probabilities of all `k!` complete removal orders sum to one -/
theorem orderProb_sum_one (omega : Mask → ℝ) (n : Nat) (hJ : ∀ h, h < 2 ^ n → Jval omega n h ≠ 0)
    (g : Mask) (hg : g < 2 ^ n) :
    ((orderingsAux (card n g) (Mask.edges n g)).map (orderProb omega n g)).sum = 1 := by
  rw [List.map_congr_left (orderProb_complete omega n hJ g hg), sum_map_div,
    ← J_eq_sum_orderings omega n (card n g) g hg rfl, div_self (hJ g hg)]

end Momtrop.C04
