import Momtrop.Model.Serde
/-!
# C18 — a serialised sampler restores to one that samples identically

The round trip for one concrete schema, hand-written in `Model/Serde.lean`, under the derive semantics (a map of all fields):
it is the identity on every sampler value, so every function of the sampler — in particular `sample` — gives identical results.
`Props/C18G.lean` proves the same for every schema and applies it to the schema regenerated from the source. Core Lean only.
-/
namespace Momtrop.C18
open Momtrop.Serde

theorem mapM_map_some {α β : Type} (enc : α → β) (dec : β → Option α) (h : ∀ x, dec (enc x) = some x) (l : List α) :
    (l.map enc).mapM dec = some l := by
  induction l with
  | nil => rfl
  | cons x xs ih => simp [h x, ih]

/-- `encEdge e` unfolds to the map that the one pattern of `decEdge` matches: the round trip is the defining equation of
`decEdge` at the fields of `e` (evaluating `decEdge` instead compares the field names character by character: slow). -/
theorem dec_enc_edge (e : SerEdge) : decEdge (encEdge e) = some e :=
  decEdge.eq_1 e.edgeId e.left e.right e.weight e.isMassive

theorem dec_enc_entry (e : SerEntry) : decEntry (encEntry e) = some e :=
  decEntry.eq_1 e.loopNumber e.mms e.j e.dod

theorem dec_enc_graph (g : SerGraph) : decGraph (encGraph g) = some g := by
  cases g with
  | mk d t nm e nl =>
    simp only [encGraph, struct, graphFields, List.map, List.zip_cons_cons, List.zip_nil_right, decGraph, decSeq]
    rw [mapM_map_some encEdge decEdge dec_enc_edge, mapM_map_some Val.nat decNat (fun _ => rfl)]
    rfl

theorem dec_enc_table (t : SerTable) : decTable (encTable t) = some t := by
  cases t with
  | mk tab dim g c =>
    simp only [encTable, struct, tableFields, List.map, List.zip_cons_cons, List.zip_nil_right, decTable, decSeq]
    rw [mapM_map_some encEntry decEntry dec_enc_entry, dec_enc_graph]
    rfl

/-- deserialising the serialised sampler gives back the same sampler value: signature, dimension, degree of divergence,
the whole table, the cached factor, bit for bit -/
theorem decode_encode (g : SerGen) : decGen (encGen g) = some g := by
  cases g with
  | mk sig t =>
    simp only [encGen, struct, genFields, List.map, List.zip_cons_cons, List.zip_nil_right, decGen, decSeq]
    have hrow : ∀ r : List Int, decSeq decInt (Val.seq (r.map Val.int)) = some r := by
      intro r; exact mapM_map_some Val.int decInt (fun _ => rfl) r
    rw [mapM_map_some (fun r : List Int => Val.seq (r.map Val.int)) (decSeq decInt) hrow, dec_enc_table]
    rfl

/-- hence any observation of the restored sampler (`get_dimension`, `get_dod`, the table, every sample at every point)
equals that of the original -/
theorem observation_after_roundtrip {β : Type} (observe : SerGen → β) (g : SerGen) :
    (decGen (encGen g)).map observe = some (observe g) := by
  rw [decode_encode]; rfl

end Momtrop.C18
