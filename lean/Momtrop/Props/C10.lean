import Momtrop.Props.C09
/-!
# C10 — loop momenta: Gaussian map with covariance `(V/2λ) L⁻¹` and centre `−L⁻¹u`

Exact arithmetic, every `L`, `E`, `D`: closed forms of `compute_loop_momenta` / `compute_only_shift`; the matrix routine's
`q_transposed_inverse` satisfies `Q⁻¹ L Q⁻ᵀ = 1`; so at the returned momenta `k = c·Q⁻ᵀq − L⁻¹u`, `c² = v/(2λ)`, the weighted propagator sum
with the masses is `v·(1 + |q|²/(2λ))`. A transposed factor, a swapped index of the double sum or a wrong sign of the shift in
`loopMomenta` makes `momenta_eq`, and with it `model_identity`, unprovable for `L ≥ 2`.
-/
namespace Momtrop.C10
open Scalar Matrix

/-- closed form of `compute_loop_momenta` -/
theorem momenta_eq (D nL : Nat) (v lam : ℝ) (qTInv Linv : Mat ℝ) (q u : List (Vec ℝ))
    (hq : q.length = nL) (hu : u.length = nL) {l i : Nat} (hl : l < nL) (hi : i < D) :
    ((loopMomenta D v lam qTInv nL q Linv u).getD l []).get i
      = ∑ l' ∈ Finset.range nL, ((q.getD l' []).get i * (Real.sqrt (v / lam / 2) * qTInv.get l l')
          - (u.getD l' []).get i * Linv.get l l') := by
  rw [loopMomenta, List.getD_map_range _ _ _ hl, zip_zipIdx_eq_range nL q u [] [] hq hu, List.foldl_map]
  refine foldl_range_get _ _ i (fun acc l' => ?_) nL
  rw [C20.sub_get D _ _ hi, C20.add_get D _ _ hi, smul_get_real, smul_get_real, add_sub_assoc, sqrt_real, ofInt_real,
    Int.cast_ofNat]

theorem compOf_loopMomenta (D nL : Nat) (v lam : ℝ) (qTInv Linv : Mat ℝ) (q u : List (Vec ℝ))
    (hq : q.length = nL) (hu : u.length = nL) {i : Nat} (hi : i < D) :
    compOf nL (loopMomenta D v lam qTInv nL q Linv u) i
      = Real.sqrt (v / lam / 2) • (M nL qTInv *ᵥ compOf nL q i) - M nL Linv *ᵥ compOf nL u i := by
  funext l
  rw [Pi.sub_apply, Pi.smul_apply, smul_eq_mul, mulVec_compOf, mulVec_compOf, compOf,
    momenta_eq D nL v lam qTInv Linv q u hq hu l.2 hi, Finset.mul_sum, ← Finset.sum_sub_distrib]
  exact Finset.sum_congr rfl fun l' _ => by ring

/-- `Metadata.shift = L⁻¹ u` -/
theorem shift_eq (D nL : Nat) (Linv : Mat ℝ) (u : List (Vec ℝ)) (hu : u.length = nL)
    {l i : Nat} (hl : l < nL) (hi : i < D) :
    ((onlyShift D Linv nL u).getD l []).get i = ∑ l' ∈ Finset.range nL, Linv.get l l' * (u.getD l' []).get i := by
  rw [onlyShift, List.getD_map_range _ _ _ hl, zipIdx_eq_range nL u [] hu, List.foldl_map]
  refine foldl_range_get _ _ i (fun acc l' => ?_) nL
  rw [C20.add_get D _ _ hi, smul_get_real, mul_comm]

/-- the `q_transposed_inverse` the matrix routine returns turns `A` into the identity -/
theorem qTInv_whitens (A : Mat ℝ) (n : Nat) (hp : PivotsPos A n) (hs : SymmOn A n) :
    (M n (C15.result A n).qTInv)ᵀ * M n A * M n (C15.result A n).qTInv = 1 := by
  have h : M n (C15.result A n).qT * M n (C15.result A n).qTInv = 1 := mul_eq_one_comm.mp (C15.qTInv_correct A n hp)
  simp only [← C15.factor_correct A n hp hs, Matrix.mul_assoc, h, Matrix.mul_one, ← transpose_mul, transpose_one]

section
variable {E L : ℕ}

/-- one spatial component, without the masses: at the sampled point the square of `C09.complete_the_square` is `c²·|q|²` -/
theorem propSum_at_sample (S : Matrix (Fin E) (Fin L) ℝ) (x p : Fin E → ℝ) (q : Fin L → ℝ) (c : ℝ)
    (Li Qti : Matrix (Fin L) (Fin L) ℝ) (hinv : lMat S x * Li = 1) (hQ : Qtiᵀ * lMat S x * Qti = 1) :
    let k := c • (Qti *ᵥ q) - Li *ᵥ uVec S x p
    (S *ᵥ k + p) ⬝ᵥ (diagonal x *ᵥ (S *ᵥ k + p)) = c ^ 2 * (q ⬝ᵥ q) + C09.Vabs S x p Li := by
  intro k
  rw [C09.complete_the_square S x p k Li hinv]
  have : k + Li *ᵥ uVec S x p = c • (Qti *ᵥ q) := by simp [k]
  rw [this, quadratic_at_sample (lMat S x) Qti q c hQ]

/-- all `D` components and the masses, with `c² = v/(2λ)`: the property's identity at the returned momenta -/
theorem propSum_total (D : ℕ) (S : Matrix (Fin E) (Fin L) ℝ) (x m : Fin E → ℝ) (p : Fin D → Fin E → ℝ)
    (q : Fin D → Fin L → ℝ) (v lam : ℝ) (Li Qti : Matrix (Fin L) (Fin L) ℝ)
    (hinv : lMat S x * Li = 1) (hQ : Qtiᵀ * lMat S x * Qti = 1) (hlam : 0 < lam) (hv0 : 0 ≤ v)
    (hv : v = (∑ e, x e * (m e * m e)) + ∑ i, C09.Vabs S x (p i) Li) :
    (∑ i, (S *ᵥ (Real.sqrt (v / lam / 2) • (Qti *ᵥ q i) - Li *ᵥ uVec S x (p i)) + p i)
          ⬝ᵥ (diagonal x *ᵥ (S *ᵥ (Real.sqrt (v / lam / 2) • (Qti *ᵥ q i) - Li *ᵥ uVec S x (p i)) + p i)))
      + ∑ e, x e * (m e * m e)
      = v * (1 + (∑ i, q i ⬝ᵥ q i) / (2 * lam)) := by
  have hc : Real.sqrt (v / lam / 2) ^ 2 = v / lam / 2 := Real.sq_sqrt (div_nonneg (div_nonneg hv0 hlam.le) zero_le_two)
  simp only [propSum_at_sample S x _ _ _ Li Qti hinv hQ, hc]
  rw [Finset.sum_add_distrib, ← Finset.mul_sum, add_assoc, add_comm (∑ i, C09.Vabs S x (p i) Li), ← hv]
  ring

/-- `propSum_total` entry by entry, the form the model's lists give -/
theorem propSum_total_entries (D : ℕ) (S : Matrix (Fin E) (Fin L) ℝ) (x m : Fin E → ℝ) (p : Fin D → Fin E → ℝ)
    (q k : Fin D → Fin L → ℝ) (v lam : ℝ) (Li Qti : Matrix (Fin L) (Fin L) ℝ)
    (hinv : lMat S x * Li = 1) (hQ : Qtiᵀ * lMat S x * Qti = 1) (hlam : 0 < lam) (hv0 : 0 ≤ v)
    (hv : v = (∑ e, x e * (m e * m e)) + ∑ i, C09.Vabs S x (p i) Li)
    (hk : ∀ i, k i = Real.sqrt (v / lam / 2) • (Qti *ᵥ q i) - Li *ᵥ uVec S x (p i)) :
    ∑ e, x e * ((∑ i, ((S *ᵥ k i) e + p i e) ^ 2) + m e ^ 2)
      = v * (1 + (∑ i, ∑ l, q i l ^ 2) / (2 * lam)) := by
  have key := propSum_total D S x m p q v lam Li Qti hinv hQ hlam hv0 hv
  simp only [← hk, dotProduct_diagonal_mulVec, Pi.add_apply, ← pow_two] at key
  rw [show (∑ i, ∑ l, q i l ^ 2) = ∑ i, q i ⬝ᵥ q i from Finset.sum_congr rfl fun i _ => by simp only [dotProduct, pow_two],
    ← key, Finset.sum_comm, ← Finset.sum_add_distrib]
  exact Finset.sum_congr rfl fun e _ => by rw [mul_add, Finset.mul_sum]

end

section
variable (S : List (List Int))

/-- number of loops read off the signature -/
abbrev nL := (S.getD 0 []).length

end

/-- the same identity on the model's own functions, `lMatrix → decompose` (through `C15.result`) `→ uVectors → vPolynomial →
loopMomenta`, for well-formed lists and an `L` matrix with positive Cholesky pivots -/
theorem model_identity (x : List ℝ) (S : List (List Int)) (D : Nat) (shifts : List (Vec ℝ)) (masses : List ℝ)
    (q : List (Vec ℝ)) (lam : ℝ)
    (hx : x.length = S.length) (hm : masses.length = S.length) (hs : shifts.length = S.length)
    (hsD : ∀ e, e < S.length → (shifts.getD e []).length = D)
    (hq : q.length = (S.getD 0 []).length)
    (hp : PivotsPos (lMatrix x S) (S.getD 0 []).length) (hlam : 0 < lam)
    (hv0 : 0 ≤ vPolynomial x (uVectors D x S shifts) (C15.result (lMatrix x S) (S.getD 0 []).length).inverse
              (S.getD 0 []).length shifts masses) :
    let nL := (S.getD 0 []).length
    let dec := C15.result (lMatrix x S) nL
    let u := uVectors D x S shifts
    let v := vPolynomial x u dec.inverse nL shifts masses
    let k := loopMomenta D v lam dec.qTInv nL q dec.inverse u
    ∑ e : Fin S.length, x.getD e 0 *
        ((∑ i : Fin D, (∑ l : Fin nL, (sigGet S e l : ℝ) * (k.getD l []).get i + (shifts.getD e []).get i) ^ 2)
          + masses.getD e 0 ^ 2)
      = v * (1 + (∑ i : Fin D, ∑ l : Fin nL, (q.getD l []).get i ^ 2) / (2 * lam)) := by
  intro nL dec u v k
  have hsym := C08.lMatrix_symmOn x S
  have hinv : lMat (Sm S) (xv x S) * M nL dec.inverse = 1 := by
    rw [← C08.M_lMatrix]; exact mul_eq_one_comm.mp (C15.inverse_correct _ _ hp hsym).1
  have hQ : (M nL dec.qTInv)ᵀ * lMat (Sm S) (xv x S) * M nL dec.qTInv = 1 := by
    rw [← C08.M_lMatrix]; exact qTInv_whitens _ _ hp hsym
  have hv : v = _ := C09.model_v_Vabs x S D shifts masses dec.inverse hx hm hs hsD (C15.inverse_symmOn _ _)
  -- the statement is `propSum_total_entries` for these matrices, written out in coordinates
  exact propSum_total_entries D (Sm S) (xv x S) (fun e => masses.getD e.1 0) (fun i => pv S shifts i.1) (fun i => compOf nL q i.1)
    (fun i => compOf nL k i.1) v lam _ _ hinv hQ hlam hv0 hv fun i => by
      rw [compOf_loopMomenta D nL v lam _ _ q u hq (C09.uVectors_length x S D shifts) i.2, C09.compOf_uVectors x S D shifts i.2]

end Momtrop.C10
