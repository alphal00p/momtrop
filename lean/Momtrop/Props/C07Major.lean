import Momtrop.Props.C07Greedy
/-!
# The greedy vertex of the `F`-polytope is `u_trop · v_trop`, and bounds the mass terms of `F`

With `z = loop number + [mass-momentum spanning]` (`zF`) the greedy vertex `tropPow` of `C07Polytope.lean` splits as a product
(`tropPow_split`): the loop-number part is the greedy product `u_trop`, the spanning part is the parameter of the edge at whose removal
spanning is lost (`vPow_eq_getElem`), which is what the sampler logs as `v_trop`. A mass term `x_{e₀} ∏_{e∈C} x_e` of `F` (`C` a cotree,
`e₀` massive) is `≤ u_trop · v_trop` factor by factor (`mass_term_le`). Cited, not proved: that the monomials of `F` are the mass terms and the
momentum terms of `C07Forest.lean` (Schultka 2018; Borinsky 2020, Thm 8.1: the Newton polytope of `F` is this generalised permutahedron).
-/
namespace Momtrop.C07

section F
variable (r : Finset ℕ → ℕ) (mm : Finset ℕ → Bool)

/-- the `z`-function of the second Symanzik polynomial on the table flags -/
def zF (A : Finset ℕ) : ℕ := r A + (if mm A = true then 1 else 0)

/-- what is used of the spanning flag -/
structure SpanLike : Prop where
  empty : mm ∅ = false
  mono : ∀ A e, mm A = true → mm (insert e A) = true

/-- the spanning part of the exponent; `tropPow (mInd mm)` is the `vPow` of the lemma names -/
def mInd (mm : Finset ℕ → Bool) (A : Finset ℕ) : ℕ := if mm A = true then 1 else 0

variable {r mm}

theorem mInd_mono (hm : SpanLike mm) (A : Finset ℕ) (e : ℕ) : mInd mm A ≤ mInd mm (insert e A) := by
  unfold mInd
  by_cases hA : mm A = true
  · rw [if_pos hA, if_pos (hm.mono A e hA)]
  · rw [if_neg hA]
    exact Nat.zero_le _

theorem zF_zero (h : NullityLike r) (hm : SpanLike mm) : zF r mm ∅ = 0 := by
  simp [zF, h.zero, hm.empty]

theorem zF_mono (h : NullityLike r) (hm : SpanLike mm) (A : Finset ℕ) (e : ℕ) : zF r mm A ≤ zF r mm (insert e A) :=
  Nat.add_le_add (h.le_insert A e) (mInd_mono hm A e)

theorem tropPow_split (h : NullityLike r) (hm : SpanLike mm) (x : ℕ → ℝ) : ∀ σ : List ℕ, σ.Nodup →
    tropPow (zF r mm) x σ = greedyProd r x σ * tropPow (mInd mm) x σ := by
  intro σ hσ
  rw [← tropPow_eq_greedyProd h x σ hσ]
  exact tropPow_add h.le_insert (mInd_mono hm) x σ

theorem SpanLike.not_of_insert (hm : SpanLike mm) {A : Finset ℕ} {e : ℕ} (h : mm (insert e A) = false) : mm A = false :=
  Bool.eq_false_iff.mpr fun hA => Bool.eq_false_iff.mp h (hm.mono A e hA)

theorem vPow_of_not (hm : SpanLike mm) (x : ℕ → ℝ) : ∀ σ : List ℕ, mm σ.toFinset = false → tropPow (mInd mm) x σ = 1 := by
  intro σ
  induction σ with
  | nil => intro _; rfl
  | cons e rest ih =>
    intro hf
    rw [List.toFinset_cons] at hf
    rw [tropPow, ih (hm.not_of_insert hf), mInd, if_neg (Bool.eq_false_iff.mp hf), Nat.zero_sub, pow_zero, one_mul]

theorem vPow_cons (hm : SpanLike mm) (x : ℕ → ℝ) (e : ℕ) (rest : List ℕ) :
    tropPow (mInd mm) x (e :: rest) =
      if mm rest.toFinset = true then tropPow (mInd mm) x rest else if mm (insert e rest.toFinset) = true then x e else 1 := by
  rw [tropPow, mInd, mInd]
  by_cases hr : mm rest.toFinset = true
  · rw [if_pos hr, if_pos hr, if_pos (hm.mono _ e hr), Nat.sub_self, pow_zero, one_mul]
  · rw [if_neg hr, if_neg hr, Nat.sub_zero, vPow_of_not hm x rest (Bool.eq_false_iff.mpr hr), mul_one, pow_ite, pow_one, pow_zero]

theorem vPow_eq_getElem (hm : SpanLike mm) (x : ℕ → ℝ) (σ : List ℕ) (hfull : mm σ.toFinset = true) :
    ∃ k, ∃ hk : k < σ.length, mm (σ.drop k).toFinset = true ∧ mm (σ.drop (k + 1)).toFinset = false ∧
      tropPow (mInd mm) x σ = x σ[k] := by
  induction σ with
  | nil => rw [List.toFinset_nil, hm.empty] at hfull; cases hfull
  | cons e rest ih =>
    rw [vPow_cons hm]
    by_cases hr : mm rest.toFinset = true
    · obtain ⟨k, hk, h1, h2, h3⟩ := ih hr
      exact ⟨k + 1, Nat.succ_lt_succ hk, h1, h2, by rw [if_pos hr, h3]; rfl⟩
    · have hr' : mm rest.toFinset = false := Bool.eq_false_iff.mpr hr
      rw [List.toFinset_cons] at hfull
      exact ⟨0, Nat.succ_pos _, by rw [List.drop_zero, List.toFinset_cons]; exact hfull, hr',
        by rw [if_neg hr, if_pos hfull]; rfl⟩

theorem le_vPow (hm : SpanLike mm) (x : ℕ → ℝ) (e0 : ℕ) (hmass : ∀ A, mm A = true → e0 ∈ A) (σ : List ℕ)
    (hs : σ.Pairwise fun p q => x q ≤ x p) (hfull : mm σ.toFinset = true) : x e0 ≤ tropPow (mInd mm) x σ := by
  obtain ⟨k, hk, h1, -, h3⟩ := vPow_eq_getElem hm x σ hfull
  -- `e0` is still there when spanning is lost
  have he0 := List.mem_toFinset.mp (hmass _ h1)
  have hs' := hs.drop (i := k)
  rw [List.drop_eq_getElem_cons hk] at he0 hs'
  rw [h3]
  rcases List.mem_cons.mp he0 with h | h
  · rw [h]
  · exact (List.pairwise_cons.mp hs').1 e0 h

/-- every mass term of `F` is at most `u_trop · v_trop`; `hmass` says that `e0` is massive (`mmOf_contains_massive`) -/
theorem mass_term_le (h : NullityLike r) (hm : SpanLike mm) (x : ℕ → ℝ) (σ : List ℕ) (hσ : σ.Nodup)
    (hpos : ∀ e ∈ σ, 0 < x e) (hsorted : σ.Pairwise fun p q => x q ≤ x p)
    (C : Finset ℕ) (hC : Cotree r σ.toFinset C) (e0 : ℕ) (he0 : e0 ∈ σ) (hmass : ∀ A, mm A = true → e0 ∈ A)
    (hfull : mm σ.toFinset = true) :
    x e0 * ∏ e ∈ C, x e ≤ tropPow (zF r mm) x σ := by
  have hx : ∀ e ∈ σ, 0 ≤ x e := fun e he => (hpos e he).le
  have hv := le_vPow hm x e0 hmass σ hsorted hfull
  rw [tropPow_split h hm x σ hσ, mul_comm (greedyProd r x σ)]
  exact mul_le_mul hv (cotree_prod_le h x σ hσ hx hsorted C hC)
    (Finset.prod_nonneg fun e he => hx e (List.mem_toFinset.mp (hC.1 he))) ((hx e0 he0).trans hv)

/-- `u_trop · v_trop` is `x_{e*} · ∏_{e∈C} x_e`, `C` the greedy cotree and `e*` the edge at whose removal spanning is lost: a mass term of `F`
when `e*` is massive, so that the bound of `mass_term_le` is attained -/
theorem uv_decomposition {r : Finset ℕ → ℕ} {mm : Finset ℕ → Bool} (h : NullityLike r) (hm : SpanLike mm) (x : ℕ → ℝ) :
    ∀ σ : List ℕ, σ.Nodup → mm σ.toFinset = true →
      ∃ k, ∃ hk : k < σ.length, mm (σ.drop k).toFinset = true ∧ mm (σ.drop (k + 1)).toFinset = false ∧
        tropPow (zF r mm) x σ = x σ[k] * ∏ e ∈ greedySet r σ, x e ∧ Cotree r σ.toFinset (greedySet r σ) := by
  intro σ hσ hfull
  obtain ⟨k, hk, h1, h2, h3⟩ := vPow_eq_getElem hm x σ hfull
  refine ⟨k, hk, h1, h2, ?_, greedySet_cotree h σ hσ⟩
  rw [tropPow_split h hm x σ hσ, h3, greedyProd_eq x σ hσ, mul_comm]

end F

section flag
variable {α : Type} [Scalar α]

/-- the spanning flag as a function of the edge SET; on the edge set of a mask it is the flag `preEntry` stores (`mmOf_edges`) -/
noncomputable def mmOf (G : TGraph α) (A : Finset ℕ) : Bool :=
  isMMSpanning G.topology G.numMassive G.externals ((A.filter (· < G.topology.length)).sort (· ≤ ·))

theorem sort_edges (n : Nat) (m : Mask) : ((Mask.edges n m).toFinset.filter (· < n)).sort (· ≤ ·) = Mask.edges n m := by
  rw [Finset.filter_true_of_mem]
  · exact (List.toFinset_sort (r := (· ≤ ·)) (Mask.edges_nodup n m)).mpr (Mask.edges_sorted n m)
  · intro x hx
    exact (Mask.mem_edges.mp (List.mem_toFinset.mp hx)).1

theorem mmOf_edges (G : TGraph α) (D : Nat) (m : Mask) :
    mmOf G (Mask.edges G.topology.length m).toFinset = (preEntry G D m).1 := by
  unfold mmOf
  rw [sort_edges, (C03.preEntry_flags G D m).2]

omit [Scalar α] in
theorem massive_count_sort (G : TGraph α)
    (hnm : G.numMassive = ((List.range G.topology.length).filter (isMassive G.topology)).length) (A : Finset ℕ) :
    (((A.filter (· < G.topology.length)).sort (· ≤ ·)).filter (isMassive G.topology)).length = G.numMassive ↔
      ∀ e, e < G.topology.length → isMassive G.topology e = true → e ∈ A := by
  rw [hnm, mass_spanning_iff _ _ (Finset.sort_nodup _ _) fun x hx => (mem_sort_filter.mp hx).2]
  refine forall_congr' fun e => forall_congr' fun he => forall_congr' fun _ => ?_
  rw [mem_sort_filter]
  exact ⟨And.left, fun h => ⟨h, he⟩⟩

theorem mmOf_iff (G : TGraph α)
    (hnm : G.numMassive = ((List.range G.topology.length).filter (isMassive G.topology)).length) (A : Finset ℕ) :
    mmOf G A = true ↔ (∀ e, e < G.topology.length → isMassive G.topology e = true → e ∈ A) ∧
      ∃ c ∈ components G.topology ((A.filter (· < G.topology.length)).sort (· ≤ ·)), ∀ v ∈ G.externals,
        ∃ i ∈ Mask.edges G.topology.length c, containsVertex G.topology i v = true := by
  rw [mmOf, C03.spanning_iff, massive_count_sort G hnm A]

theorem mmOf_spanLike (G : TGraph α)
    (hnm : G.numMassive = ((List.range G.topology.length).filter (isMassive G.topology)).length) : SpanLike (mmOf G) := by
  refine ⟨?_, ?_⟩
  · unfold mmOf
    rw [Finset.filter_empty, Finset.sort_empty]
    exact C03.spanning_nil _ _ _
  · intro A e hA
    refine isMMSpanning_mono _ _ _ _ _ hnm (Finset.sort_nodup _ _) (Finset.sort_nodup _ _) (fun x hx => ?_) (fun x hx => ?_) hA
    · rw [mem_sort_filter] at hx ⊢
      exact ⟨Finset.mem_insert_of_mem hx.1, hx.2⟩
    · exact (mem_sort_filter.mp hx).2

/-- a massive edge lies in every mass-momentum spanning subgraph: the premise `hmass` of `mass_terms_le` -/
theorem mmOf_contains_massive (G : TGraph α)
    (hnm : G.numMassive = ((List.range G.topology.length).filter (isMassive G.topology)).length)
    (e0 : ℕ) (he0 : e0 < G.topology.length) (hmassive : isMassive G.topology e0 = true) (A : Finset ℕ)
    (hA : mmOf G A = true) : e0 ∈ A :=
  ((mmOf_iff G hnm A).mp hA).1 e0 he0 hmassive

end flag

end Momtrop.C07
