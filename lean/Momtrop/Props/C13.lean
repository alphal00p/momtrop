import Momtrop.Proofs.SampleInv
import Momtrop.Proofs.RealInst
/-!
# C13 — Gaussian vectors are the Box–Muller transform of their designated coordinates

`S`: which coordinates feed which component, for every `D`, `L` and scalar type.
`R`: the Box–Muller identities in exact arithmetic. That the pair is standard normal and independent
for a uniform point is the Box–Muller theorem (`C13BM.lean`; all `D·L` components jointly: `C13Joint.lean`).
-/
namespace Momtrop.C13
open Scalar

section S
variable {α : Type} [Scalar α]
-- for abstract `α` the only `Mul α` is the one of `Scalar α`; found first here, it spares the search through all that Mathlib derives a `Mul` from
attribute [local instance 1100] Scalar.toMul
attribute [local instance 1100] Scalar.toNeg

/-- `box_muller` in the code's operation order -/
theorem boxMuller_def (a b : α) :
    boxMuller a b = (cos ((ofInt 2 : α) * pi * b) * sqrt (-(ofInt 2 : α) * ln a),
                     sin ((ofInt 2 : α) * pi * b) * sqrt (-(ofInt 2 : α) * ln a)) := rfl

/-- Gaussian number `n` (counted through all loop vectors) is the cosine (even `n`) or sine (odd `n`) value of pair `⌊n/2⌋` -/
theorem gaussianAt_def (xs : List α) (base n : Nat) (a b : α)
    (ha : xs[base + 2 * (n / 2)]? = some a) (hb : xs[base + 2 * (n / 2) + 1]? = some b) :
    gaussianAt xs base n = some (if n % 2 = 0 then (boxMuller a b).1 else (boxMuller a b).2) := by
  unfold gaussianAt; rw [ha, hb]

/-- pairing across loop vectors: component `i` of loop vector `l` is Gaussian number `l·D + i` -/
theorem qVectors_component (xs : List α) (base D L : Nat) (q : List (Vec α))
    (h : qVectors xs base D L = some q) :
    q.length = L ∧ ∀ l (hl : l < L) (hq : l < q.length), q[l].length = D ∧
      ∀ i (hi : i < D) (hv : i < q[l].length), gaussianAt xs base (l * D + i) = some (q[l])[i] := by
  obtain ⟨hlen, hrows⟩ := mapM_some_getElem _ _ _ h
  simp only [List.length_range] at hlen
  refine ⟨hlen, ?_⟩
  intro l hl hq
  have hrow := hrows l (List.length_range.symm ▸ hl) hq
  rw [List.getElem_range] at hrow
  obtain ⟨hlen2, hcomp⟩ := mapM_some_getElem _ _ _ hrow
  simp only [List.length_range] at hlen2
  refine ⟨hlen2, ?_⟩
  intro i hi hv
  have := hcomp i (List.length_range.symm ▸ hi) hv
  rwa [List.getElem_range] at this

/-- when `D·L` is odd the last sine is produced and dropped -/
theorem qReads_def (D L : Nat) : qReads D L = D * L + (D * L) % 2 := rfl

/-- every pair used lies inside the `qReads` coordinates after `base` -/
theorem pair_in_range (D L n : Nat) (hn : n < D * L) : 2 * (n / 2) + 1 < qReads D L :=
  pair_lt_qReads D L n hn

end S

section R

theorem box_muller_polar (a b : ℝ) :
    boxMuller a b = (Real.cos (2 * Real.pi * b) * Real.sqrt (-2 * Real.log a),
                     Real.sin (2 * Real.pi * b) * Real.sqrt (-2 * Real.log a)) := by
  simp only [boxMuller_def, ofInt_real]
  rfl

theorem box_muller_radius (a b : ℝ) (ha0 : 0 < a) (ha1 : a ≤ 1) :
    (boxMuller a b).1 ^ 2 + (boxMuller a b).2 ^ 2 = -2 * Real.log a := by
  have hnn : 0 ≤ -2 * Real.log a :=
    mul_nonneg_of_nonpos_of_nonpos (neg_nonpos.mpr zero_le_two) (Real.log_nonpos ha0.le ha1)
  rw [box_muller_polar, mul_pow, mul_pow, ← add_mul, Real.cos_sq_add_sin_sq, one_mul, Real.sq_sqrt hnn]

end R
end Momtrop.C13
