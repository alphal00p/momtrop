import Momtrop.Props.C07Run
/-!
# `u_trop · v_trop` is attained by a momentum term of `F` when spanning is lost because two externals get separated

Let the removal of `e* = σ[k]` separate the external vertices `v`, `w`, and let `G` be the greedy cotree of all edges `S`. `e*` closes no cycle
with what is left after it, so `e* ∉ G` (`separating_not_greedy`). After the removal `v ~ a`, `b ~ w` with `a`, `b` the end points of `e*`
(`separated_ends`), hence also inside the greedy forest of what is left (`forest_conn`), which is part of the greedy forest `S ∖ G`
(`greedySet_drop`). Were `v ~ w` in `S ∖ G` without `e*` as well, so would `a ~ b` be, and `e*` would close a cycle inside the forest
(`joined_closes_cycle`), which has none: `split_persist`, and with it `uv_attained_momentum`.
-/
namespace Momtrop.C07

section attain
variable {α : Type}

theorem joined_closes_cycle (top : List (TEdge α)) (B : Finset ℕ) (hB : ∀ x ∈ B, x < top.length) (f : ℕ) (hf : f < top.length)
    (hfB : f ∉ B) (a b : ℕ) (ha : a ∈ endSet top f) (hb : b ∈ endSet top f) (hab : a ≠ b) (hj : VConn top B.toList a b) :
    loopsOf top (insert f B) = loopsOf top B + 1 := by
  refine (loopsOf_insert_iff top B hB f hf hfB).mpr (Or.inr ⟨a, ha, b, hb, hab, ?_⟩)
  rcases hj with hj | hj
  · exact absurd hj hab
  · exact hj

variable (top : List (TEdge α))

/-- the greedy spanning forest: what is left when the greedy cotree is taken out -/
noncomputable def forestOf (σ : List ℕ) : Finset ℕ := σ.toFinset \ greedySet (loopsOf top) σ

/-- the greedy forest keeps the connectivity of the graph -/
theorem forest_conn : ∀ (σ : List ℕ), σ.Nodup → (∀ x ∈ σ, x < top.length) →
    ∀ a b, VConn top σ a b → VConn top (forestOf top σ).toList a b := by
  intro σ hσ hvalid a b h
  exact cotree_conn top σ.toFinset _ (fun e he => hvalid e (List.mem_toFinset.mp he)) (greedySet_cotree (loopsOf_nullity top) σ hσ)
    (vconn_toFinset.mpr h)

theorem separated_ends (γ : List ℕ) (e v w : ℕ) (hj : VConn top (e :: γ) v w) (hnj : ¬ VConn top γ v w) :
    ∃ a ∈ endSet top e, ∃ b ∈ endSet top e, VConn top γ v a ∧ VConn top γ b w ∧ ¬ VConn top γ a b := by
  rcases add_edge_split top γ e v w hj with h | ⟨a, ha, b, hb, hva, hbw⟩
  · exact absurd h hnj
  · exact ⟨a, ha, b, hb, hva, hbw, fun hab => hnj ((hva.trans hab).trans hbw)⟩

theorem separating_not_greedy (σ : List ℕ) (hσ : σ.Nodup) (hvalid : ∀ x ∈ σ, x < top.length) (k : ℕ) (hk : k < σ.length) (v w : ℕ)
    (hj : VConn top (σ.drop k) v w) (hnj : ¬ VConn top (σ.drop (k + 1)) v w) : σ[k] ∉ greedySet (loopsOf top) σ := by
  intro hG
  have hdk : σ.drop k = σ[k] :: σ.drop (k + 1) := List.drop_eq_getElem_cons hk
  have hndk : (σ.drop k).Nodup := hσ.sublist (List.drop_sublist k σ)
  rw [hdk, List.nodup_cons] at hndk
  obtain ⟨a, ha, b, hb, -, -, hab⟩ := separated_ends top (σ.drop (k + 1)) σ[k] v w (hdk ▸ hj) hnj
  have hGk := greedySet_drop σ hσ k hG (hdk ▸ List.mem_cons_self)
  rw [hdk, greedySet] at hGk
  split at hGk
  next hlt =>
    -- greedy for the suffix: the end points of `σ[k]` are joined without it
    have hends := removed_edge_joined top (σ.drop (k + 1)).toFinset
      (fun y hy => hvalid y (List.mem_of_mem_drop (List.mem_toFinset.mp hy))) _ (hvalid _ (List.getElem_mem hk))
      (fun hm => hndk.1 (List.mem_toFinset.mp hm)) hlt.ne'
    exact hab (vconn_toFinset.mp (hends a ha b hb))
  next => exact hndk.1 (List.mem_toFinset.mp (greedySet_subset _ hGk))

/-- what separates `v` and `w` after the removal of `σ[k]` still separates them in the greedy forest without `σ[k]` -/
theorem split_persist : ∀ (σ : List ℕ), σ.Nodup → (∀ x ∈ σ, x < top.length) → ∀ (k : ℕ) (hk : k < σ.length) (v w : ℕ),
    VConn top (σ.drop k) v w → ¬ VConn top (σ.drop (k + 1)) v w →
    ¬ VConn top ((forestOf top σ).erase σ[k]).toList v w := by
  intro σ hσ hvalid k hk v w hj hnj hc
  have hdk : σ.drop k = σ[k] :: σ.drop (k + 1) := List.drop_eq_getElem_cons hk
  have hndk : (σ.drop k).Nodup := hσ.sublist (List.drop_sublist k σ)
  rw [hdk, List.nodup_cons] at hndk
  -- the greedy forest of what is left after `σ[k]` is part of the greedy forest of the whole graph, and joins what the rest joins
  have hF : ∀ p q, VConn top (σ.drop (k + 1)) p q → VConn top ((forestOf top σ).erase σ[k]).toList p q := fun p q h =>
    (forest_conn top _ hndk.2 (fun x hx => hvalid x (List.mem_of_mem_drop hx)) p q h).mono fun y hy => by
      simp only [Finset.mem_toList, Finset.mem_erase, forestOf, Finset.mem_sdiff, List.mem_toFinset] at hy ⊢
      exact ⟨fun h => hndk.1 (h ▸ hy.1), List.mem_of_mem_drop hy.1, fun hG => hy.2 (greedySet_drop σ hσ (k + 1) hG hy.1)⟩
  -- `v ~ a`, `b ~ w` after the removal; a second way from `v` to `w` in the forest joins the ends `a`, `b` of `σ[k]` without it
  obtain ⟨a, ha, b, hb, hva, hbw, hab⟩ := separated_ends top (σ.drop (k + 1)) σ[k] v w (hdk ▸ hj) hnj
  have := joined_closes_cycle top ((forestOf top σ).erase σ[k])
    (fun x hx => hvalid x (List.mem_toFinset.mp (Finset.mem_sdiff.mp (Finset.mem_of_mem_erase hx)).1)) σ[k]
    (hvalid _ (List.getElem_mem hk)) (Finset.notMem_erase _ _) a b ha hb (fun h => hab (h ▸ Or.inl rfl))
    (((hF v a hva).symm.trans hc).trans (hF b w hbw).symm)
  rw [Finset.insert_erase (show σ[k] ∈ forestOf top σ from Finset.mem_sdiff.mpr
    ⟨List.mem_toFinset.mpr (List.getElem_mem hk), separating_not_greedy top σ hσ hvalid k hk v w hj hnj⟩)] at this
  have hF0 : loopsOf top (forestOf top σ) = 0 := (greedySet_cotree (loopsOf_nullity top) σ hσ).2.1
  exact Nat.succ_ne_zero _ (this.symm.trans hF0)

/-- if the removal of `e* = σ[k]` separates two external vertices, `greedy cotree ∪ {e*}` is the complement of a spanning 2-forest
separating them - a momentum term of `F` - with monomial `x_{e*} · ∏_{greedy cotree} x`, which is `u_trop · v_trop` (`uv_decomposition`) -/
theorem uv_attained_momentum (ext : List ℕ) (x : ℕ → ℝ) (σ : List ℕ) (hσ : σ.Nodup) (hvalid : ∀ e ∈ σ, e < top.length)
    (k : ℕ) (hk : k < σ.length) (v w : ℕ) (hv : v ∈ ext) (hw : w ∈ ext)
    (hj : VConn top (σ.drop k) v w) (hnj : ¬ VConn top (σ.drop (k + 1)) v w) :
    let C' := insert σ[k] (greedySet (loopsOf top) σ)
    C' ⊆ σ.toFinset ∧ loopsOf top (σ.toFinset \ C') = 0 ∧ C'.card = loopsOf top σ.toFinset + 1 ∧
      Split top ext (σ.toFinset \ C') ∧ ∏ e ∈ C', x e = x σ[k] * ∏ e ∈ greedySet (loopsOf top) σ, x e := by
  have hN := loopsOf_nullity top
  have hcot := greedySet_cotree hN σ hσ
  have hnotG := separating_not_greedy top σ hσ hvalid k hk v w hj hnj
  refine ⟨Finset.insert_subset (List.mem_toFinset.mpr (List.getElem_mem hk)) hcot.1, ?_, ?_, ⟨v, hv, w, hw, ?_⟩, Finset.prod_insert hnotG⟩
  · exact Nat.le_zero.mp (hcot.2.1 ▸ r_mono hN (Finset.sdiff_subset_sdiff (le_refl _) (Finset.subset_insert _ _)))
  · rw [Finset.card_insert_of_notMem hnotG, hcot.2.2]
  · rw [Finset.sdiff_insert]
    exact split_persist top σ hσ hvalid k hk v w hj hnj

end attain

section flagJoined
variable {α : Type} [Scalar α]

/-- the converse of `mmOf_contains_massive` and `mmOf_conn`, when there are two different external vertices -/
theorem mmOf_of_joined (G : TGraph α) (A : Finset ℕ) (hA : ∀ x ∈ A, x < G.topology.length)
    (hmass : (((A.filter (· < G.topology.length)).sort (· ≤ ·)).filter (isMassive G.topology)).length = G.numMassive)
    (v0 w0 : ℕ) (hv0 : v0 ∈ G.externals) (hw0 : w0 ∈ G.externals) (hne : v0 ≠ w0)
    (hall : ∀ v ∈ G.externals, ∀ w ∈ G.externals, VConn G.topology A.toList v w) : mmOf G A = true := by
  unfold mmOf
  rw [C03.spanning_iff]
  have hmem : ∀ x, x ∈ (A.filter (· < G.topology.length)).sort (· ≤ ·) ↔ x ∈ A := fun x => by
    rw [mem_sort_filter]
    exact ⟨And.left, fun hx => ⟨hx, hA x hx⟩⟩
  exact ⟨hmass, component_of_joined _ _ _ (Finset.sort_nodup _ _) (fun x hx => hA x ((hmem x).mp hx)) v0 w0 hv0 hw0 hne
    fun v hv w hw => (hall v hv w hw).mono fun x hx => (hmem x).mpr (Finset.mem_toList.mp hx)⟩

/-- with two different external vertices `u_trop · v_trop` is a monomial of `F`, a mass term (`e*` massive) or a momentum term (`uv_attained_momentum`):
with `mass_term_le`, `momentum_term_le`, `v_trop` is exactly the largest monomial of `F/U` -/
theorem uv_is_monomial (G : TGraph α) (x : ℕ → ℝ) (σ : List ℕ) (hσ : σ.Nodup) (hvalid : ∀ e ∈ σ, e < G.topology.length)
    (hnm : G.numMassive = ((List.range G.topology.length).filter (isMassive G.topology)).length)
    (hfull : mmOf G σ.toFinset = true)
    (v0 w0 : ℕ) (hv0 : v0 ∈ G.externals) (hw0 : w0 ∈ G.externals) (hne : v0 ≠ w0) :
    ∃ k, ∃ hk : k < σ.length,
      tropPow (zF (loopsOf G.topology) (mmOf G)) x σ = x σ[k] * ∏ e ∈ greedySet (loopsOf G.topology) σ, x e ∧
      Cotree (loopsOf G.topology) σ.toFinset (greedySet (loopsOf G.topology) σ) ∧
      (isMassive G.topology σ[k] = true ∨
        (insert σ[k] (greedySet (loopsOf G.topology) σ) ⊆ σ.toFinset ∧
          loopsOf G.topology (σ.toFinset \ insert σ[k] (greedySet (loopsOf G.topology) σ)) = 0 ∧
          (insert σ[k] (greedySet (loopsOf G.topology) σ)).card = loopsOf G.topology σ.toFinset + 1 ∧
          Split G.topology G.externals (σ.toFinset \ insert σ[k] (greedySet (loopsOf G.topology) σ)) ∧
          ∏ e ∈ insert σ[k] (greedySet (loopsOf G.topology) σ), x e = tropPow (zF (loopsOf G.topology) (mmOf G)) x σ)) := by
  have hm := mmOf_spanLike G hnm
  obtain ⟨k, hk, h1, h2, h3, h4⟩ := uv_decomposition (loopsOf_nullity G.topology) hm x σ hσ hfull
  refine ⟨k, hk, h3, h4, ?_⟩
  by_cases hmv : isMassive G.topology σ[k] = true
  · exact Or.inl hmv
  · right
    -- `σ[k]` is not massive, so the massive edges are all still there after its removal: what is lost is the connection of two external
    -- vertices
    have hm2 : ∀ e, e < G.topology.length → isMassive G.topology e = true → e ∈ (σ.drop (k + 1)).toFinset := fun e he hme => by
      have := ((mmOf_iff G hnm _).mp h1).1 e he hme
      rw [List.mem_toFinset, List.drop_eq_getElem_cons hk, List.mem_cons] at this
      exact List.mem_toFinset.mpr (this.resolve_left fun h => hmv (h ▸ hme))
    have hsep : ¬ ∀ v ∈ G.externals, ∀ w ∈ G.externals, VConn G.topology (σ.drop (k + 1)).toFinset.toList v w := fun hc => by
      rw [mmOf_of_joined G _ (fun y hy => hvalid y (List.mem_of_mem_drop (List.mem_toFinset.mp hy)))
        ((massive_count_sort G hnm _).mpr hm2) v0 w0 hv0 hw0 hne hc] at h2
      cases h2
    push Not at hsep
    obtain ⟨v, hv, w, hw, hnj⟩ := hsep
    obtain ⟨a1, a2, a3, a4, a5⟩ := uv_attained_momentum G.topology G.externals x σ hσ hvalid k hk v w hv hw
      (vconn_toFinset.mp (mmOf_conn G _ h1 v hv w hw)) fun h => hnj (vconn_toFinset.mpr h)
    exact ⟨a1, a2, a3, a4, by rw [a5, h3]⟩

/-! non-vacuity of `uv_is_monomial`: the massless triangle with its three vertices external, removal order 0, 1, 2 -/
noncomputable def triG : TGraph ℝ :=
  { dod := 1, topology := [⟨0, 1, 1, false⟩, ⟨1, 2, 1, false⟩, ⟨2, 0, 1, false⟩], numMassive := 0, externals := [0, 1, 2], numLoops := 1 }

theorem tri_full : mmOf triG (Mask.edges triG.topology.length 7).toFinset = true := by
  rw [mmOf_edges triG 3 7]
  decide

theorem tri_edges : Mask.edges triG.topology.length 7 = [0, 1, 2] := by decide

example (x : ℕ → ℝ) :=
  uv_is_monomial triG x [0, 1, 2] (by decide) (by decide) (by decide) (by rw [← tri_edges]; exact tri_full) 0 1
    (by decide) (by decide) (by decide)

/-- C07 on the model's own table in one statement (flags of `preEntry G D`, what `generate_from_tropical` stores; a successful run): every
cotree monomial is `≤ u_trop`, which is one of them, and every mass term and every momentum term of `F` is `≤ u_trop · v_trop` -/
theorem tropical_values_bound_all_monomials (T : STable ℝ) (G : TGraph ℝ) (D : Nat) (hn : T.numEdges = G.topology.length)
    (hnm : G.numMassive = ((List.range G.topology.length).filter (isMassive G.topology)).length)
    (hl : ∀ m, m < 2 ^ T.numEdges → T.loops m = (preEntry G D m).2.1)
    (hs : ∀ m, m < 2 ^ T.numEdges → T.mms m = (preEntry G D m).1)
    (hspan : T.mms (Mask.full T.numEdges) = true)
    (xs : List ℝ) (r : PermResult ℝ) (h : permutahedral T xs = some r)
    (hpos : ∀ s ∈ permTrace T xs T.numEdges (Mask.full T.numEdges) 0, ∀ xi, s.xi = some xi → 0 < xi ∧ xi ≤ 1 ∧ 0 < T.omega s.rest) :
    let x : ℕ → ℝ := fun e => r.xPre.getD e 0
    let S := Finset.range T.numEdges
    ((∀ C, Cotree (loopsOf G.topology) S C → ∏ e ∈ C, x e ≤ r.uTrPre) ∧
        ∃ C, Cotree (loopsOf G.topology) S C ∧ ∏ e ∈ C, x e = r.uTrPre) ∧
      (∀ C, Cotree (loopsOf G.topology) S C → ∀ e0, e0 < T.numEdges → isMassive G.topology e0 = true →
        x e0 * ∏ e ∈ C, x e ≤ r.uTrPre * r.vTrPre) ∧
      (∀ C, C ⊆ S → loopsOf G.topology (S \ C) = 0 → C.card = loopsOf G.topology S + 1 → Split G.topology G.externals (S \ C) →
        ∏ e ∈ C, x e ≤ r.uTrPre * r.vTrPre) := by
  obtain ⟨hm, hL, hM⟩ := premises_of_preEntry T G D hn hnm hl hs
  refine ⟨uTrop_is_largest_monomial T G.topology hL xs r h hpos, ?_, ?_⟩
  · intro C hC e0 he0 hmass
    exact mass_terms_le T G.topology (mmOf G) hm hL hM hspan xs r h hpos C hC e0 he0
      (fun A hA => mmOf_contains_massive G hnm e0 (hn ▸ he0) hmass A hA)
  · intro C hCS hz hcard hsplit
    exact momentum_terms_le T G.topology G.externals (mmOf G) hm (fun A hA => mmOf_conn G A hA) hn hL hM hspan xs r h hpos C hCS hz hcard hsplit

end flagJoined

end Momtrop.C07
