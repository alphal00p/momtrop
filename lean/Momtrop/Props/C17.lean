import Momtrop.Props.C16
/-!
# C17 — sampling is a pure function of its arguments

Law-free (`S`) theorems. In the model `sample` is a function of (table, signature, point, edge data, settings) and the sampler
an immutable value, so what is left to state is which settings can influence which outputs. The RNG entry point is modelled as
`sample` on a list of `dimension` draws (`sampleFromRng`); `runHistory` threads no state, so the two statements about histories
unfold its definition. That the real `&self` methods cannot change the state is Rust's aliasing rule plus the absence of
interior mutability (source audit and `Send + Sync` assertion in the harness, not Lean).
-/
namespace Momtrop.C17
variable {α : Type} [Scalar α]

/-- `print_debug_info` does not enter the computation at all -/
theorem debug_irrelevant (draw : α → α → Option α) (T : STable α) (D : Nat) (xs : List α)
    (S : List (List Int)) (ed : List (Option α × Vec α)) (st : Settings α) (b : Bool) :
    sampleCore draw T D xs S ed { st with debug := b } = sampleCore draw T D xs S ed st := rfl

def stripMeta (r : Option (Except SampleErr (SampleResult α))) : Option (Except SampleErr (SampleResult α)) :=
  r.map fun e => e.map fun res => { res with metadata := none }

/-- `return_metadata` only decides whether the metadata is attached: all numerical outputs, the error
status and the number of coordinates read are the same -/
theorem meta_irrelevant (draw : α → α → Option α) (T : STable α) (D : Nat) (xs : List α)
    (S : List (List Int)) (ed : List (Option α × Vec α)) (st : Settings α) (b : Bool) :
    stripMeta (sampleCore draw T D xs S ed { st with returnMeta := b })
      = stripMeta (sampleCore draw T D xs S ed st) := by
  unfold stripMeta
  rw [sampleCore_eq, sampleCore_eq, sampleWith_map, sampleWith_map]
  -- with the metadata dropped, `sampleOut` does not mention `returnMeta`
  rfl

/-- `matrix_stability_test` can only turn an `Ok` into an error -/
theorem stability_only_rejects (draw : α → α → Option α) (T : STable α) (D : Nat) (xs : List α)
    (S : List (List Int)) (ed : List (Option α × Vec α)) (st : Settings α) (t : α) (res : SampleResult α)
    (h : sampleCore draw T D xs S ed { st with stability := some t } = some (.ok res)) :
    sampleCore draw T D xs S ed { st with stability := none } = some (.ok res) := by
  obtain ⟨pr, dec, p, lam, q, hpr, hdec, hp, hl, hq, rfl⟩ := (sampleCore_ok_iff _ _ _ _ _ _ _ _).mp h
  exact (sampleCore_ok_iff _ _ _ _ _ _ _ _).mpr
    ⟨pr, dec, p, lam, q, hpr, C16.ok_same_without_test _ _ t dec hdec, hp, hl, hq, rfl⟩

/-- `generate_sample_from_rng`: draw exactly `dimension` numbers, then `sample` on them -/
def sampleFromRng (draw : α → α → Option α) (T : STable α) (D : Nat) (dimension : Nat) (rng : Nat → α)
    (S : List (List Int)) (ed : List (Option α × Vec α)) (st : Settings α) :=
  sampleCore draw T D ((List.range dimension).map rng) S ed st

theorem fromRng_draws (dimension : Nat) (rng : Nat → α) : ((List.range dimension).map rng).length = dimension := by
  simp

/-- a history of operations on an API whose operations leave the state unchanged (`step s op = (s, f s op)`) -/
def runHistory {σ ι ο : Type} (f : σ → ι → ο) (s : σ) : List ι → σ × List ο
  | [] => (s, [])
  | op :: ops => let r := runHistory f s ops; (r.1, f s op :: r.2)

theorem history_irrelevant {σ ι ο : Type} (f : σ → ι → ο) (s : σ) (ops : List ι) :
    (runHistory f s ops).1 = s ∧ (runHistory f s ops).2 = ops.map (f s) := by
  induction ops with
  | nil => exact ⟨rfl, rfl⟩
  | cons op ops ih => exact ⟨ih.1, congrArg (f s op :: ·) ih.2⟩

/-- the answer to `op` inside any interleaving `h₁ ++ op :: h₂` of several clients' histories is that of a fresh call -/
theorem interleaving_irrelevant {σ ι ο : Type} (f : σ → ι → ο) (s : σ) (h₁ h₂ : List ι) (op : ι) :
    (runHistory f s (h₁ ++ op :: h₂)).2[h₁.length]? = some (f s op) := by
  rw [(history_irrelevant f s _).2, List.getElem?_map, List.getElem?_append_right (Nat.le_refl _), Nat.sub_self]
  rfl

end Momtrop.C17
