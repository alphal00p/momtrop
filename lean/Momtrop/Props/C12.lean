import Momtrop.Model.Gamma
/-!
# C12 — the Gamma quantile: failures are errors, not values; exits; residual on convergence

Law-free (`S`) theorems about the model of `inverse_gamma_lr(_impl)` **after fix `b2abcbe`**, for every
scalar type (hence IEEE `f64`) and every implementation `ext` of the three `statrs` functions.
The accuracy clause (|P(a,λ) − p| ≤ 2e-8 on the whole domain) is numerical analysis of IEEE code and of
`statrs`; it is decided by the mpmath oracle, not proved. Core Lean only.
-/
namespace Momtrop.C12
open Scalar
variable {φ : Type} [Scalar φ]

theorem invGammaLr_ok_iff (ext : GammaExt φ) (a p : φ) (n : Nat) (tol r : φ) :
    invGammaLr ext a p n tol = some (some r) ↔
      (∃ e, invGammaImpl ext a p n tol = some (r, e)) ∧ (isFiniteS r && gtB r (lit 0x0000000000000000)) = true := by
  unfold invGammaLr
  cases invGammaImpl ext a p n tol with
  | none => simp
  | some v =>
    obtain ⟨r', e⟩ := v
    simp only [Option.some.injEq, Prod.mk.injEq, exists_and_left, exists_eq', and_true]
    split
    · next hc => simp only [Option.some.injEq]; exact ⟨fun h => ⟨h, h ▸ hc⟩, fun h => h.1⟩
    · next hc => exact ⟨fun h => (nomatch h), fun h => absurd (h.1 ▸ h.2) hc⟩

/-- an `Ok` value is finite and positive under the scalar's own comparisons: for IEEE numbers not NaN, ±∞, ±0 or negative -/
theorem wrapper_ok_pos_finite (ext : GammaExt φ) (a p : φ) (n : Nat) (tol r : φ)
    (h : invGammaLr ext a p n tol = some (some r)) :
    isFiniteS r = true ∧ gtB r (lit 0x0000000000000000) = true :=
  Bool.and_eq_true_iff.mp ((invGammaLr_ok_iff ext a p n tol r).mp h).2

/-- anything else the iteration returns (NaN, ±∞, zero, negative) is reported as `GammaError` -/
theorem wrapper_err_otherwise (ext : GammaExt φ) (a p : φ) (n : Nat) (tol r : φ) (e : GExit)
    (hi : invGammaImpl ext a p n tol = some (r, e))
    (hbad : (isFiniteS r && gtB r (lit 0x0000000000000000)) = false) :
    invGammaLr ext a p n tol = some none := by
  rw [invGammaLr, hi]
  exact if_neg (Bool.eq_false_iff.mp hbad)

/-- the wrapper never invents a value -/
theorem wrapper_ok_is_impl (ext : GammaExt φ) (a p : φ) (n : Nat) (tol r : φ)
    (h : invGammaLr ext a p n tol = some (some r)) : ∃ e, invGammaImpl ext a p n tol = some (r, e) :=
  ((invGammaLr_ok_iff ext a p n tol r).mp h).1

/-- the iteration makes at most `max_n_iter` steps and ends as `converged k` with `k < max_n_iter` or as `exhausted` -/
theorem schroeder_exit (ext : GammaExt φ) (a p q gA te : φ) :
    ∀ (fuel k : Nat) (x r : φ) (e : GExit), schroeder ext a p q gA te fuel k x = some (r, e) →
      e = .exhausted ∨ ∃ j, e = .converged j ∧ k ≤ j ∧ j < k + fuel := by
  intro fuel k x r e h
  fun_induction schroeder ext a p q gA te fuel k x
  -- the cases: out of fuel, a panic inside `statrs`, converged, one more step
  case case1 => cases h; exact Or.inl rfl
  case case2 => cases h
  case case3 => exact Or.inr ⟨_, (Prod.mk.inj (Option.some.inj h)).2.symm, Nat.le_refl _, Nat.lt_add_of_pos_right (Nat.succ_pos _)⟩
  case case4 ih =>
    rcases ih h with h1 | ⟨j, hj, h2, h3⟩
    · exact Or.inl h1
    · exact Or.inr ⟨j, hj, Nat.le_of_succ_le h2, Nat.lt_of_lt_of_eq h3 (Nat.add_right_comm _ 1 _)⟩

/-- when the iteration reports `converged`, the regularised incomplete gamma function as computed by `statrs` (lower for
`p ≤ 1/2`, upper otherwise) is within `tol·ε` of the target at the returned point -/
theorem converged_residual (ext : GammaExt φ) (a p q gA te : φ) :
    ∀ (fuel k : Nat) (x r : φ) (j : Nat), schroeder ext a p q gA te fuel k x = some (r, .converged j) →
      ∃ err, (if leB p (lit 0x3FE0000000000000) then (ext.lr a r).map fun v => v - p
              else (ext.ur a r).map fun v => -(v - q)) = some err ∧ ltB (Scalar.abs err) te = true := by
  intro fuel k x r j h
  fun_induction schroeder ext a p q gA te fuel k x
  case case1 => cases h
  case case2 => cases h
  case case3 err herr hlt => rw [← (Prod.mk.inj (Option.some.inj h)).1]; exact ⟨err, herr, hlt⟩
  case case4 ih => exact ih h

/-- `true` on no early return and on the three early returns `startValue` has -/
def early : Option GExit → Bool
  | some (.converged _) | some .exhausted => false
  | _ => true

theorem early_ite {β : Type} {c : Prop} [Decidable c] {x y : β × Option GExit}
    (hx : early x.2 = true) (hy : early y.2 = true) : early (if c then x else y).2 = true := by
  split <;> assumption

/-- Only the exit tag of each branch of `startValue` is looked at; the float expressions in the first
components are never touched (splitting the definition itself into its cases is very slow). -/
theorem startValue_early (ext : GammaExt φ) (a p : φ) : early (startValue ext a p).2 = true := by
  repeat' apply early_ite
  all_goals rfl

/-- every way `inverse_gamma_lr_impl` can return: three early exits or the two exits of the iteration -/
theorem exit_total (ext : GammaExt φ) (a p : φ) (n : Nat) (tol r : φ) (e : GExit)
    (h : invGammaImpl ext a p n tol = some (r, e)) :
    e = .nearOne ∨ e = .tinyB ∨ e = .largeA ∨ e = .exhausted ∨ ∃ j, e = .converged j ∧ j < n := by
  unfold invGammaImpl at h
  split at h
  · rename_i v e' hs
    have he := startValue_early ext a p
    rw [hs] at he
    cases h
    cases e with
    | nearOne => exact .inl rfl
    | tinyB => exact .inr (.inl rfl)
    | largeA => exact .inr (.inr (.inl rfl))
    | converged _ => cases he
    | exhausted => cases he
  · rename_i x0 hs
    rcases schroeder_exit ext a p _ _ _ n 0 x0 r e h with h1 | ⟨j, hj, _, h3⟩
    · exact .inr (.inr (.inr (.inl h1)))
    · exact .inr (.inr (.inr (.inr ⟨j, hj, Nat.zero_add n ▸ h3⟩)))

end Momtrop.C12
