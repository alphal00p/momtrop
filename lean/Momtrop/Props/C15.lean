import Momtrop.Proofs.Decomp
import Momtrop.Proofs.DecomposeLemmas
import Momtrop.Proofs.PosDef
/-!
# C15 — the matrix routine returns the true determinant, inverse and Cholesky factors

Exact arithmetic, every dimension `n`, under `PivotsPos A n` (what the algorithm itself needs) and symmetry of `A` on the index range; a
positive definite matrix has both (`pivotsPos_of_posDef`, `Proofs/PosDef.lean`), whence `decompose_correct_of_posDef`. The rounding-error
clause of the property ("relative accuracy proportional to the condition number") is measured by the oracle, not proved.
-/
namespace Momtrop.C15
open Scalar

section
variable (A : Mat ℝ) (n : Nat)

/-- the record `decompose` returns on success, spelled out -/
noncomputable def result : Decomp ℝ :=
  let Q := cholQ A n
  let iq := inverseQ n (nSum n (nMatrix n Q) (numPowers n)) (invDiag n Q)
  { determinant := detQ n Q * detQ n Q
    inverse := Mat.mul n (Mat.transpose n iq) iq
    qT := Mat.transpose n Q
    qTInv := Mat.transpose n iq }

theorem M_result_qT : M n (result A n).qT = (QM A n).transpose := M_transpose n _
theorem M_result_qTInv : M n (result A n).qTInv = (IQ A n).transpose := M_transpose n _
theorem M_result_inverse : M n (result A n).inverse = (IQ A n).transpose * IQ A n := by
  rw [← M_result_qTInv]; exact M_mul n _ _

theorem detQ_pos (hp : PivotsPos A n) : 0 < detQ n (cholQ A n) := by
  rw [detQ_eq]; exact Finset.prod_pos fun k _ => q_diag_pos A n k.2 (hp k.1 k.2)

theorem guard_false (hp : PivotsPos A n) :
    (beq (detQ n (cholQ A n)) (zero : ℝ) || beq (detQ n (cholQ A n) * detQ n (cholQ A n)) zero) = false := by
  have h := detQ_pos A n hp
  rw [Bool.or_eq_false_iff, Bool.eq_false_iff, Bool.eq_false_iff, Ne, Ne, beq_real, beq_real]
  exact ⟨h.ne', (mul_pos h h).ne'⟩

/-- without the stability test the routine is `Ok` on every matrix with positive pivots -/
theorem decompose_none (hp : PivotsPos A n) : decompose n A none = .ok (result A n) :=
  (C16.decompose_ok_iff n A none _).mpr ⟨guard_false A n hp, rfl, fun _ ht => nomatch ht⟩

/-- `q_transposed` is a Cholesky factor of `A` -/
theorem factor_correct (hp : PivotsPos A n) (hs : SymmOn A n) :
    (M n (result A n).qT).transpose * M n (result A n).qT = M n A := by
  rw [M_result_qT, Matrix.transpose_transpose]; exact QM_mul_transpose A n hp hs

/-- `q_transposed` is upper triangular with a positive diagonal -/
theorem factor_upper_pos (hp : PivotsPos A n) (i j : Fin n) :
    (j < i → M n (result A n).qT i j = 0) ∧ 0 < M n (result A n).qT i i := by
  rw [M_result_qT]
  simp only [Matrix.transpose_apply, QM_apply]
  exact ⟨fun h => q_upper A n (Fin.lt_def.mp h) i.2, q_diag_pos A n i.2 (hp i.1 i.2)⟩

/-- `q_transposed_inverse` is the inverse of `q_transposed` -/
theorem qTInv_correct (hp : PivotsPos A n) :
    M n (result A n).qTInv * M n (result A n).qT = 1 := by
  simp only [M_result_qTInv, M_result_qT, ← Matrix.transpose_mul, QM_mul_IQ A n hp, Matrix.transpose_one]

/-- `inverse` is `A⁻¹` -/
theorem inverse_correct (hp : PivotsPos A n) (hs : SymmOn A n) :
    M n (result A n).inverse * M n A = 1 ∧ M n (result A n).inverse = (M n A)⁻¹ := by
  have h : M n (result A n).inverse * M n A = 1 := by
    rw [M_result_inverse, ← QM_mul_transpose A n hp hs]
    calc (IQ A n).transpose * IQ A n * (QM A n * (QM A n).transpose)
        = (IQ A n).transpose * (IQ A n * QM A n) * (QM A n).transpose := by
          simp only [Matrix.mul_assoc]
      _ = 1 := by
          simp only [IQ_mul_QM A n hp, Matrix.mul_one, ← Matrix.transpose_mul, QM_mul_IQ A n hp,
            Matrix.transpose_one]
  exact ⟨h, (Matrix.inv_eq_left_inv h).symm⟩

theorem inverse_symmOn : SymmOn (result A n).inverse n := fun i j hi hj => by
  have ht : (M n (result A n).inverse).transpose = M n (result A n).inverse := by
    simp only [M_result_inverse, Matrix.transpose_mul, Matrix.transpose_transpose]
  have := congrFun (congrFun ht ⟨j, hj⟩) ⟨i, hi⟩
  rwa [Matrix.transpose_apply, M_apply, M_apply] at this

/-- `determinant` is `det A` -/
theorem determinant_correct (hp : PivotsPos A n) (hs : SymmOn A n) :
    (result A n).determinant = (M n A).det := by
  have : (result A n).determinant = detQ n (cholQ A n) * detQ n (cholQ A n) := rfl
  rw [this, detQ_eq]
  exact (det_eq_sq_prod_diag A n hp hs).symm

theorem l21_zero (Z : Mat ℝ) (hZ : M n Z = 0) : Mat.l21 n Z = 0 := by
  have hz : ∀ i j, i < n → j < n → Z.get i j = 0 := fun i j hi hj => by
    rw [← M_apply n Z ⟨i, hi⟩ ⟨j, hj⟩, hZ, Matrix.zero_apply]
  rw [Mat.l21, sumFrom_range]
  refine Finset.sum_eq_zero fun j hj => ?_
  rw [sumFrom_range, sqrt_real, Finset.sum_eq_zero, Real.sqrt_zero]
  intro i hi
  rw [hz i j (Finset.mem_range.mp hi) (Finset.mem_range.mp hj), mul_zero]

/-- with `matrix_stability_test = Some(t)`, `t ≥ 0`, still `Ok`: in exact arithmetic the residual is zero -/
theorem decompose_ok_of_pivotsPos (hp : PivotsPos A n) (hs : SymmOn A n) (t : ℝ) (ht : 0 ≤ t) :
    decompose n A (some t) = .ok (result A n) := by
  refine (C16.decompose_ok_iff n A (some t) _).mpr ⟨guard_false A n hp, rfl, fun t' ht' => ?_⟩
  cases ht'
  rw [leB_real, C16.residual, l21_zero n _ (by rw [M_sub, M_mul, M_identity, sub_eq_zero]; exact (inverse_correct A n hp hs).1)]
  exact ht

/-- non-vacuity: a non-diagonal matrix that is symmetric with positive pivots (`Q = [[2,0],[1,2]]`) -/
def ex : Mat ℝ := [[4, 2], [2, 5]]

theorem ex_symm : SymmOn ex 2 := by
  intro i j hi hj
  interval_cases i <;> interval_cases j <;> rfl

theorem ex_pivotsPos : PivotsPos ex 2 := by
  have p0 : piv ex 2 0 = 4 := by rw [piv, Finset.sum_range_zero, sub_zero]; rfl
  have q00 : q ex 2 0 0 = 2 := by
    rw [q_diag ex 2 Nat.zero_lt_two, p0, show (4 : ℝ) = 2 * 2 by norm_num]; exact Real.sqrt_mul_self (by norm_num)
  have q10 : q ex 2 1 0 = 1 := by
    rw [q_lower ex 2 Nat.zero_lt_one Nat.one_lt_two, q00, Finset.sum_range_zero, sub_zero]; exact div_self two_ne_zero
  have p1 : piv ex 2 1 = 4 := by
    rw [piv, Finset.sum_range_one, q10, mul_one]; show (5 : ℝ) - 1 = 4; norm_num
  intro k hk
  interval_cases k
  · rw [p0]; norm_num
  · rw [p1]; norm_num

end

/-- the whole property in exact arithmetic under its own hypothesis: for a symmetric positive-definite matrix of any dimension the routine
returns `Ok` (with or without the stability test) and every field of the record is what its name says -/
theorem decompose_correct_of_posDef (A : Mat ℝ) (n : Nat) (hpd : (M n A).PosDef) :
    decompose n A none = .ok (result A n) ∧
    (∀ t : ℝ, 0 ≤ t → decompose n A (some t) = .ok (result A n)) ∧
    (M n (result A n).qT).transpose * M n (result A n).qT = M n A ∧
    (∀ i j : Fin n, (j < i → M n (result A n).qT i j = 0) ∧ 0 < M n (result A n).qT i i) ∧
    M n (result A n).qTInv * M n (result A n).qT = 1 ∧
    M n (result A n).inverse = (M n A)⁻¹ ∧
    (result A n).determinant = (M n A).det := by
  have hp := pivotsPos_of_posDef A n hpd
  have hs := symmOn_of_posDef A n hpd
  exact ⟨decompose_none A n hp, fun t ht => decompose_ok_of_pivotsPos A n hp hs t ht, factor_correct A n hp hs,
    fun i j => factor_upper_pos A n hp i j, qTInv_correct A n hp, (inverse_correct A n hp hs).2,
    determinant_correct A n hp hs⟩

end Momtrop.C15
