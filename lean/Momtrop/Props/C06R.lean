import Momtrop.Props.C06
import Momtrop.Proofs.RealInst
/-!
# C06 in exact arithmetic: the selected edge is the one whose probability interval contains `u`
-/
namespace Momtrop.C06
open Scalar

theorem cumAfter_real (T : STable ℝ) (g : Mask) (pre : List Nat) (c : ℝ) :
    cumAfter T g pre c = c + (pre.map (edgeProb T g)).sum := by
  rw [cumAfter, ← List.foldl_map (g := (· + ·)), ← sumFrom, sumFrom_eq]

theorem misses_of_sum_lt (T : STable ℝ) (u : ℝ) (g : Mask) :
    ∀ (pre : List Nat) (c : ℝ), (∀ f ∈ pre, 0 ≤ edgeProb T g f) → c + (pre.map (edgeProb T g)).sum < u →
      Misses T u g pre c := by
  intro pre
  induction pre with
  | nil => exact fun c _ _ => misses_nil T u g c
  | cons a pre ih =>
    intro c hp hlt
    rw [List.map_cons, List.sum_cons, ← add_assoc] at hlt
    have hpre : 0 ≤ (pre.map (edgeProb T g)).sum :=
      List.sum_nonneg fun y hy => by
        obtain ⟨f, hf, rfl⟩ := List.mem_map.mp hy
        exact hp f (List.mem_cons_of_mem _ hf)
    refine (misses_cons T u g a pre c).mpr ⟨?_, ih _ (fun f hf => hp f (List.mem_cons_of_mem _ hf)) hlt⟩
    rw [Bool.eq_false_iff, Ne, geB_real, not_le]
    exact lt_of_le_of_lt (le_add_of_nonneg_right hpre) hlt

/-- inversion of the edge distribution: `e` is selected when `u` lies in its interval `(c_{k-1}, c_k]` of the cumulative sums -/
theorem sampleEdge_interval (T : STable ℝ) (u : ℝ) (g : Mask) (pre : List Nat) (e : Nat) (post : List Nat)
    (hes : Mask.edges T.numEdges g = pre ++ e :: post)
    (hp : ∀ f ∈ Mask.edges T.numEdges g, 0 ≤ edgeProb T g f)
    (hlo : (pre.map (edgeProb T g)).sum < u) (hhi : u ≤ (pre.map (edgeProb T g)).sum + edgeProb T g e) :
    sampleEdge T u g = some (e, Mask.pop g e) := by
  unfold sampleEdge
  rw [hes]
  apply scan_hit
  · refine misses_of_sum_lt T u g pre zero (fun f hf => hp f (hes ▸ List.mem_append_left _ hf)) ?_
    rwa [zero_real, zero_add]
  · rwa [geB_real, cumAfter_append_singleton, cumAfter_real, zero_real, zero_add]

/-- the interval of edge `e` has length `p_e` -/
theorem interval_length (T : STable ℝ) (g : Mask) (pre : List Nat) (e : Nat) :
    cumAfter T g (pre ++ [e]) 0 - cumAfter T g pre 0 = edgeProb T g e := by
  rw [cumAfter_append_singleton, add_sub_cancel_left]

/-- in exact arithmetic, with probabilities summing to one, the fallback of the fixed code is never needed: the selected
edge's running sum reaches `u` -/
theorem sampleEdge_total_real (T : STable ℝ) (u : ℝ) (g : Mask)
    (hsum : ((Mask.edges T.numEdges g).map (edgeProb T g)).sum = 1) (hu1 : u ≤ 1) :
    ∃ e g', sampleEdge T u g = some (e, g') ∧
      ∃ pre post, Mask.edges T.numEdges g = pre ++ e :: post ∧ u ≤ (pre.map (edgeProb T g)).sum + edgeProb T g e := by
  have hne : Mask.edges T.numEdges g ≠ [] := fun h => by
    rw [h] at hsum
    exact Real.zero_lt_one.ne hsum
  obtain ⟨⟨e, g'⟩, hs⟩ := Option.isSome_iff_exists.mp (sampleEdge_total T u g hne ((leB_real u 1).mpr hu1))
  obtain ⟨pre, post, hes, _, hor⟩ := sampleEdge_first T u g e g' hs
  refine ⟨e, g', hs, pre, post, hes, ?_⟩
  rcases hor with hge | ⟨rfl, _⟩
  · rwa [geB_real, cumAfter_append_singleton, cumAfter_real, zero_real, zero_add] at hge
  · -- the last edge: its running sum is the total, which is one
    simp only [hes, List.map_append, List.sum_append, List.map_singleton, List.sum_singleton] at hsum
    exact hsum ▸ hu1

end Momtrop.C06
