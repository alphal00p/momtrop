import Momtrop.Props.C02
import Momtrop.Props.C07Run
/-!
# C02: the premise on `U` is a theorem of the model

`U_premises`: for a successful run of the model's `permatuhedral_sampling` on a table whose loop numbers are those of the graph, the reported
`u_trop` satisfies `U_tr ≤ U ≤ N_T · U_tr`, with `U = Σ_{cotrees C} ∏_{e∈C} x_e` in the pre-rescaling parameters (the first Symanzik
polynomial as the sum over the complements of spanning forests) and `N_T` their number.
-/
namespace Momtrop.C02
open Momtrop.C07

variable {β : Type}

theorem U_premises (T : STable ℝ) (top : List (TEdge β))
    (hL : ∀ m, m < 2 ^ T.numEdges → T.loops m = loopsOf top (Mask.edges T.numEdges m).toFinset)
    (xs : List ℝ) (r : PermResult ℝ) (h : permutahedral T xs = some r)
    (hpos : ∀ s ∈ permTrace T xs T.numEdges (Mask.full T.numEdges) 0, ∀ xi, s.xi = some xi → 0 < xi ∧ xi ≤ 1 ∧ 0 < T.omega s.rest) :
    let x : ℕ → ℝ := fun e => r.xPre.getD e 0
    let U : ℝ := ∑ C ∈ cotrees top (Finset.range T.numEdges), ∏ e ∈ C, x e
    r.uTrPre ≤ U ∧ U ≤ (cotrees top (Finset.range T.numEdges)).card * r.uTrPre ∧
      1 ≤ (cotrees top (Finset.range T.numEdges)).card := by
  intro x U
  have S := run_facts T xs r h hpos
  have hb := symanzik_U_bounds top r.order S.nodup x S.nonneg S.anti
  rw [S.range, ← run_uTr T top hL xs r h] at hb
  refine ⟨hb.1, hb.2, Finset.card_pos.mpr ⟨greedySet (loopsOf top) r.order, ?_⟩⟩
  exact mem_cotrees.mpr (S.range ▸ greedySet_cotree (loopsOf_nullity top) r.order S.nodup)

/-- C02 with the premise on `U` discharged: only the two premises on `V` remain hypotheses -/
theorem ratio_bounds_U (T : STable ℝ) (top : List (TEdge β))
    (hL : ∀ m, m < 2 ^ T.numEdges → T.loops m = loopsOf top (Mask.edges T.numEdges m).toFinset)
    (xs : List ℝ) (r : PermResult ℝ) (h : permutahedral T xs = some r)
    (hpos : ∀ s ∈ permTrace T xs T.numEdges (Mask.full T.numEdges) 0, ∀ xi, s.xi = some xi → 0 < xi ∧ xi ≤ 1 ∧ 0 < T.omega s.rest)
    (V Vtr cmin Csum halfD dod : ℝ) (hUt : 0 < r.uTrPre) (hVt : 0 < Vtr) (hcmin : 0 < cmin) (hC : 0 < Csum)
    (hhalf : 0 ≤ halfD) (hdod : 0 ≤ dod)
    (hV1 : cmin / (cotrees top (Finset.range T.numEdges)).card * Vtr ≤ V) (hV2 : V ≤ Csum * Vtr) :
    let x : ℕ → ℝ := fun e => r.xPre.getD e 0
    let U : ℝ := ∑ C ∈ cotrees top (Finset.range T.numEdges), ∏ e ∈ C, x e
    let N : ℝ := (cotrees top (Finset.range T.numEdges)).card
    N ^ (-halfD) * Csum ^ (-dod) ≤ (r.uTrPre / U) ^ halfD * (Vtr / V) ^ dod ∧
      (r.uTrPre / U) ^ halfD * (Vtr / V) ^ dod ≤ (N / cmin) ^ dod := by
  intro x U N
  obtain ⟨h1, h2, h3⟩ := U_premises T top hL xs r h hpos
  exact ratio_bounds U r.uTrPre V Vtr N cmin Csum halfD dod hUt hVt (Nat.one_le_cast.mpr h3) hcmin hC hhalf hdod h1 h2 hV1 hV2

/-- `U_premises` for a table with the loop numbers of `preEntry G D` (what `generate_from_tropical` stores) -/
theorem U_premises_model (T : STable ℝ) (G : TGraph ℝ) (D : Nat) (hn : T.numEdges = G.topology.length)
    (hl : ∀ m, m < 2 ^ T.numEdges → T.loops m = (preEntry G D m).2.1)
    (xs : List ℝ) (r : PermResult ℝ) (h : permutahedral T xs = some r)
    (hpos : ∀ s ∈ permTrace T xs T.numEdges (Mask.full T.numEdges) 0, ∀ xi, s.xi = some xi → 0 < xi ∧ xi ≤ 1 ∧ 0 < T.omega s.rest) :
    let x : ℕ → ℝ := fun e => r.xPre.getD e 0
    let U : ℝ := ∑ C ∈ cotrees G.topology (Finset.range T.numEdges), ∏ e ∈ C, x e
    r.uTrPre ≤ U ∧ U ≤ (cotrees G.topology (Finset.range T.numEdges)).card * r.uTrPre ∧
      1 ≤ (cotrees G.topology (Finset.range T.numEdges)).card :=
  U_premises T G.topology (fun m hm => by rw [hl m hm, hn, preEntry_loops]) xs r h hpos

/-- `V = F/U ≤ C_sum · V_tr` for `F = Σ_i c_i m_i` with non-negative coefficients, from the monomial bounds `m_i ≤ U_tr · V_tr`
(`C07.mass_terms_le`, `C07.momentum_terms_le`) and `U_tr ≤ U` (`U_premises`) -/
theorem V_upper {ι : Type} (s : Finset ι) (c m : ι → ℝ) (U Utr Vtr : ℝ) (hc : ∀ i ∈ s, 0 ≤ c i)
    (hm : ∀ i ∈ s, m i ≤ Utr * Vtr) (hU : Utr ≤ U) (hUt : 0 < Utr) (hVt : 0 ≤ Vtr) :
    (∑ i ∈ s, c i * m i) / U ≤ (∑ i ∈ s, c i) * Vtr := by
  have hUpos : 0 < U := lt_of_lt_of_le hUt hU
  rw [div_le_iff₀ hUpos]
  calc ∑ i ∈ s, c i * m i ≤ ∑ i ∈ s, c i * (Utr * Vtr) :=
        Finset.sum_le_sum fun i hi => mul_le_mul_of_nonneg_left (hm i hi) (hc i hi)
    _ = (∑ i ∈ s, c i) * Vtr * Utr := by rw [← Finset.sum_mul]; ring
    _ ≤ (∑ i ∈ s, c i) * Vtr * U :=
        mul_le_mul_of_nonneg_left hU (mul_nonneg (Finset.sum_nonneg hc) hVt)

end Momtrop.C02
