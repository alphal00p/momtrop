import Momtrop.Props.C12
import Mathlib.Data.Real.Basic
import Mathlib.Tactic.Linarith
/-!
# C12, the "hence monotone in p up to that tolerance" clause

For ANY strictly increasing `F` (here `P(a,·)`, the regularised lower incomplete gamma function) the accuracy bound `|F (lam p) − p| ≤ t`
(decided numerically, mpmath oracle) makes the returned quantile `lam` monotone outside a `2t` window: the implication the property states.
-/
namespace Momtrop.C12

theorem monotone_up_to_tol (F lam : ℝ → ℝ) (hF : StrictMono F) (t : ℝ) (p₁ p₂ : ℝ)
    (h₁ : |F (lam p₁) - p₁| ≤ t) (h₂ : |F (lam p₂) - p₂| ≤ t) (hp : p₁ + 2 * t < p₂) :
    lam p₁ < lam p₂ := by
  have a1 := (abs_le.mp h₁).2
  have a2 := (abs_le.mp h₂).1
  have : F (lam p₁) < F (lam p₂) := by linarith
  exact hF.lt_iff_lt.mp this

/-- the same on the side of the CDF, for `p₁ ≤ p₂`; `F` need not be monotone -/
theorem cdf_of_quantile_almost_monotone (F lam : ℝ → ℝ) (t : ℝ) (p₁ p₂ : ℝ)
    (h₁ : |F (lam p₁) - p₁| ≤ t) (h₂ : |F (lam p₂) - p₂| ≤ t) (hp : p₁ ≤ p₂) :
    F (lam p₁) ≤ F (lam p₂) + 2 * t := by
  have a1 := (abs_le.mp h₁).2
  have a2 := (abs_le.mp h₂).1
  linarith

end Momtrop.C12
