import Momtrop.Props.C05
import Momtrop.Props.C04
/-!
# C05 in exact arithmetic: an accepted table has strictly positive `J` everywhere
-/
namespace Momtrop.C05
open Scalar

/-- `J > 0` everywhere; the hypothesis leaves out the full graph because only `ω` of proper subsets is ever divided by -/
theorem J_pos (omega : Mask → ℝ) (n : Nat)
    (hpos : ∀ h, h < 2 ^ n → h ≠ Mask.full n → 0 < omega h) :
    ∀ (c : Nat) (g : Mask), g < 2 ^ n → card n g = c → 0 < Jval omega n g := by
  refine card_induction (by rw [C04.J_empty]; exact Real.zero_lt_one) fun c g hg h0 hc ih => ?_
  rw [C04.J_rec omega n g hg h0, sumIter_eq]
  refine List.sum_pos _ (fun t ht => ?_) (mt List.map_eq_nil_iff.mp (Mask.edges_ne_nil hg h0))
  obtain ⟨e, he, rfl⟩ := List.mem_map.mp ht
  -- `g∖e` is a proper subgraph: it has fewer edges than the full graph
  have hnf : Mask.pop g e ≠ Mask.full n := fun hf => by
    have hle : card n g ≤ n := (List.length_filter_le _ _).trans_eq List.length_range
    rw [← card_pop he, hf, card_full] at hle
    exact Nat.not_succ_le_self n hle
  exact div_pos (ih e he) (hpos _ (Mask.pop_lt_of_mem hg he) hnf)

/-- every `J` stored in a table that `generate_from_tropical` accepts is positive -/
theorem table_j_pos (Γ : ℝ → ℝ) (G : TGraph ℝ) (D : Nat) (T : Table ℝ) (h : generateTable Γ G D = .ok T)
    (g : Mask) (hg : g < 2 ^ G.topology.length) :
    ∃ e, T.entries[g]? = some e ∧ 0 < e.j := by
  obtain ⟨e, he, hj⟩ := C04.table_j Γ G D T h g hg
  refine ⟨e, he, hj ▸ J_pos _ _ (fun s hs hsf => ?_) _ g hg rfl⟩
  rw [omegaOf_map_range (preEntry G D) hs]
  by_cases hs0 : s = 0
  · subst hs0
    exact Real.zero_lt_one
  · -- a non-empty proper subset with `ω ≤ 0` would have been rejected
    by_contra hcon
    have hbad := (isBad_iff G D s).mpr ⟨by rw [leB_real]; exact not_lt.mp hcon, hs0, hsf⟩
    rw [(build_ok Γ G D T h).2.2.2.1 s hs] at hbad
    cases hbad

/-- under the condition that `build_sampler` checks, the probabilities of all `E!` complete removal orders (sectors) sum to one -/
theorem sector_probs_sum_one (omega : Mask → ℝ) (n : Nat)
    (hpos : ∀ h, h < 2 ^ n → h ≠ Mask.full n → 0 < omega h) (g : Mask) (hg : g < 2 ^ n) :
    ((C04.orderingsAux (card n g) (Mask.edges n g)).map (C04.orderProb omega n g)).sum = 1 :=
  C04.orderProb_sum_one omega n (fun h hh => (J_pos omega n hpos _ h hh rfl).ne') g hg

/-- non-vacuity of `sector_probs_sum_one`: `ω ≡ 1` satisfies its hypothesis for every number of edges -/
example (n : Nat) (g : Mask) (hg : g < 2 ^ n) :
    ((C04.orderingsAux (card n g) (Mask.edges n g)).map (C04.orderProb (fun _ => (1 : ℝ)) n g)).sum = 1 :=
  sector_probs_sum_one (fun _ => 1) n (fun _ _ _ => Real.zero_lt_one) g hg

end Momtrop.C05
