import Momtrop.Props.C07
import Momtrop.Props.C06
import Momtrop.Proofs.MaskLemmas
/-!
# C07, sector formula in closed form

The removal loop is the replay of its *trace* `(s_k, g_k, ξ_k)` (removed edge, remaining graph, the number drawn after the removal):
`κ_{k+1} = κ_k · ξ_k^(1/ω(g_k))`, the `k`-th removed edge receives `κ_k`, and `u_trop`, `v_trop` take up `κ_k` where the loop number drops
and where spanning is lost (`permLoop_run`, every scalar type). The trace is a chain `g_k = g_{k-1} ∖ s_k`, so the removed edges are
pairwise distinct. In exact arithmetic the parameter of `s_k` before the common rescaling is `∏_{j<k} ξ_j^(1/ω(g_j))` (`sector_formula`).
-/
namespace Momtrop.C07
open Scalar

section S
variable {α : Type} [Scalar α]
-- for abstract `α` the only `Mul α` is the one of `Scalar α`; found first here, it spares the search through all that Mathlib derives a `Mul` from
attribute [local instance 1100] Scalar.toMul

/-- one record of the removal loop: removed edge, remaining graph, the `ξ` drawn after it (`none` after the last) -/
structure Step (α : Type) where
  e : Nat
  rest : Mask
  xi : Option α

/-- the trace of the removal loop (same recursion as `permLoop`, recording instead of computing) -/
def permTrace (T : STable α) (xs : List α) : Nat → Mask → Nat → List (Step α)
  | 0, _, _ => []
  | fuel + 1, g, cnt =>
    if Mask.isEmpty g then [] else
    match chooseEdge T xs g cnt with
    | none => []
    | some (e, g', cnt') =>
      if Mask.isEmpty g' then [⟨e, g', none⟩] else
      match xs[cnt']? with
      | none => []
      | some xi => ⟨e, g', some xi⟩ :: permTrace T xs fuel g' (cnt' + 1)

/-- `κ` after a step: multiplied by `ξ^(1/ω(remaining graph))` -/
def nextKappa (T : STable α) (κ : α) (s : Step α) : α :=
  match s.xi with
  | some xi => κ * powf xi (inv (T.omega s.rest))
  | none => κ

/-- replay of a trace: the removed edge receives the current `κ` -/
def replay (T : STable α) : α → List α → List (Step α) → List α
  | _, x, [] => x
  | κ, x, s :: rest => replay T (nextKappa T κ s) (x.set s.e κ) rest

/-- the trace is a chain of removals starting at `g` -/
def Chain (n : Nat) : Mask → List (Step α) → Prop
  | _, [] => True
  | g, s :: rest => s.e ∈ Mask.edges n g ∧ s.rest = Mask.pop g s.e ∧ Chain n s.rest rest

/-- replay of the bookkeeping of `u_trop` (times `κ` where the loop number drops) and `v_trop` (set to `κ` where spanning is lost) -/
def tropReplay (T : STable α) : α → α → α → Mask → List (Step α) → α × α
  | _, u, v, _, [] => (u, v)
  | κ, u, v, g, s :: rest =>
    tropReplay T (nextKappa T κ s) (if T.loops s.rest < T.loops g then u * κ else u)
      (if T.mms g && !T.mms s.rest then κ else v) s.rest rest

/-- One walk through `permLoop` for all that is read off its trace; with enough fuel a successful run takes one step per edge. -/
theorem permLoop_run (T : STable α) (xs : List α) (fuel : Nat) (g : Mask) (st st' : PState α)
    (h : permLoop T xs fuel g st = some st') :
    (st'.x = replay T st.kappa st.x (permTrace T xs fuel g st.cnt) ∧
      st'.order = st.order ++ (permTrace T xs fuel g st.cnt).map (·.e) ∧
      Chain T.numEdges g (permTrace T xs fuel g st.cnt)) ∧
    (st'.uTr, st'.vTr) = tropReplay T st.kappa st.uTr st.vTr g (permTrace T xs fuel g st.cnt) ∧
    (g < 2 ^ T.numEdges → card T.numEdges g ≤ fuel → (permTrace T xs fuel g st.cnt).length = card T.numEdges g) := by
  -- the cases are the branches of `permLoop` in the order of its definition; in 3 and 5 the loop fails
  fun_induction permLoop T xs fuel g st generalizing st'
  case case1 => cases h; exact ⟨⟨rfl, (List.append_nil _).symm, trivial⟩, rfl, fun _ hc => (Nat.le_zero.mp hc).symm⟩
  case case2 he =>
    -- nothing left to remove
    cases h
    rw [permTrace, if_pos he]
    exact ⟨⟨rfl, (List.append_nil _).symm, trivial⟩, rfl, fun hg _ => ((Mask.isEmpty_iff_card hg).mp he).symm⟩
  case case3 => cases h
  case case4 he _ _ _ hc _ _ _ hz =>
    -- the last removal: nothing is left after it and no `ξ` is drawn
    cases h
    have hm := C14.chooseEdge_some T xs _ _ _ _ _ hc
    simp only [permTrace, he, hc, hz, Bool.false_eq_true, if_false]
    refine ⟨⟨rfl, rfl, hm.1, hm.2.1, trivial⟩, rfl, fun hg _ => ?_⟩
    rw [← card_pop hm.1, ← hm.2.1, (Mask.isEmpty_iff_card (hm.2.1 ▸ Mask.pop_lt_of_mem hg hm.1)).mp hz]
    rfl
  case case5 => cases h
  case case6 he _ _ _ hc _ _ _ hz xi hx ih =>
    -- a removal, a draw of `ξ`, and the rest of the run with one edge and one unit of fuel less
    obtain ⟨⟨h1, h2, h3⟩, h4, h5⟩ := ih st' h
    have hm := C14.chooseEdge_some T xs _ _ _ _ _ hc
    simp only [permTrace, he, hc, hz, hx, Bool.false_eq_true, if_false]
    refine ⟨⟨h1, by rw [h2, List.append_assoc]; rfl, hm.1, hm.2.1, h3⟩, h4, fun hg hf => ?_⟩
    have hcard := card_pop hm.1
    rw [← hm.2.1] at hcard
    rw [List.length_cons, h5 (hm.2.1 ▸ Mask.pop_lt_of_mem hg hm.1) (Nat.le_of_succ_le_succ (hcard.trans_le hf)), hcard]

/-- the written parameters and the removal order of the loop are the replay of its trace, a chain; every scalar type -/
theorem permLoop_trace (T : STable α) (xs : List α) :
    ∀ (fuel : Nat) (g : Mask) (st st' : PState α), permLoop T xs fuel g st = some st' →
      st'.x = replay T st.kappa st.x (permTrace T xs fuel g st.cnt) ∧
      st'.order = st.order ++ (permTrace T xs fuel g st.cnt).map (·.e) ∧
      Chain T.numEdges g (permTrace T xs fuel g st.cnt) :=
  fun fuel g st st' h => (permLoop_run T xs fuel g st st' h).1

/-- `u_trop`, `v_trop` of the loop are the replay of its trace; every scalar type -/
theorem permLoop_trop (T : STable α) (xs : List α) :
    ∀ (fuel : Nat) (g : Mask) (st st' : PState α), permLoop T xs fuel g st = some st' →
      (st'.uTr, st'.vTr) = tropReplay T st.kappa st.uTr st.vTr g (permTrace T xs fuel g st.cnt) :=
  fun fuel g st st' h => (permLoop_run T xs fuel g st st' h).2.1

omit [Scalar α] in
theorem chain_perm {n : Nat} (g : Mask) (tr : List (Step α)) (h : Chain n g tr) :
    ∃ l, (Mask.edges n g).Perm (tr.map (·.e) ++ l) := by
  induction tr generalizing g with
  | nil => exact ⟨_, List.Perm.refl _⟩
  | cons a rest ih =>
    obtain ⟨h1, h2, h3⟩ := h
    obtain ⟨l, hl⟩ := ih a.rest h3
    rw [h2, Mask.edges_pop_erase n g a.e h1] at hl
    exact ⟨l, (List.perm_cons_erase h1).trans (hl.cons a.e)⟩

omit [Scalar α] in
theorem chain_lt {n : Nat} (g : Mask) (tr : List (Step α)) (h : Chain n g tr) : ∀ s ∈ tr, s.e < n := fun _ hs =>
  have ⟨_, hl⟩ := chain_perm g tr h
  (Mask.mem_edges.mp (hl.mem_iff.mpr (List.mem_append_left _ (List.mem_map_of_mem hs)))).1

/-- a chain never removes an edge twice: the loop overwrites no Feynman parameter -/
theorem chain_nodup {n : Nat} : ∀ (g : Mask) (tr : List (Step α)), Chain n g tr → (tr.map (·.e)).Nodup := fun g tr h =>
  have ⟨_, hl⟩ := chain_perm g tr h
  (hl.nodup_iff.mp (Mask.edges_nodup n g)).of_append_left

/-- `κ` in force when step `k` is executed -/
def kappaAt (T : STable α) (κ : α) (tr : List (Step α)) (k : Nat) : α := (tr.take k).foldl (nextKappa T) κ

theorem replay_length (T : STable α) : ∀ (tr : List (Step α)) (κ : α) (x : List α), (replay T κ x tr).length = x.length := by
  intro tr
  induction tr with
  | nil => intro κ x; rfl
  | cons s rest ih => intro κ x; rw [replay, ih, List.length_set]

theorem replay_get_other (T : STable α) : ∀ (tr : List (Step α)) (κ : α) (x : List α) (i : Nat),
    i ∉ tr.map (·.e) → (replay T κ x tr)[i]? = x[i]? := by
  intro tr
  induction tr with
  | nil => intro κ x i _; rfl
  | cons s rest ih =>
    intro κ x i hi
    rw [List.map_cons, List.mem_cons, not_or] at hi
    rw [replay, ih _ _ i hi.2, List.getElem?_set_ne fun h => hi.1 h.symm]

theorem replay_get (T : STable α) : ∀ (tr : List (Step α)) (κ : α) (x : List α),
    (tr.map (·.e)).Nodup → (∀ s ∈ tr, s.e < x.length) →
    ∀ (k : Nat) (hk : k < tr.length), (replay T κ x tr)[(tr[k]).e]? = some (kappaAt T κ tr k) := by
  intro tr
  induction tr with
  | nil => intro κ x _ _ k hk; cases hk
  | cons s rest ih =>
    intro κ x hnd hlt k hk
    rw [List.map_cons, List.nodup_cons] at hnd
    cases k with
    | zero =>
      rw [List.getElem_cons_zero, replay, replay_get_other T rest _ _ s.e hnd.1]
      exact List.getElem?_set_self (hlt s List.mem_cons_self)
    | succ k =>
      -- the later steps run from `κ` after `s` on the list with `s.e` set
      exact ih _ _ hnd.2 (fun t ht => by rw [List.length_set]; exact hlt t (List.mem_cons_of_mem _ ht)) k (Nat.lt_of_succ_lt_succ hk)

end S

section R

/-- the factor contributed by a step: `ξ^(1/ω(g))` -/
noncomputable def factor (T : STable ℝ) (s : Step ℝ) : ℝ :=
  match s.xi with
  | some xi => xi ^ (T.omega s.rest)⁻¹
  | none => 1

theorem nextKappa_eq (T : STable ℝ) (κ : ℝ) (s : Step ℝ) : nextKappa T κ s = κ * factor T s := by
  unfold nextKappa factor
  cases s.xi with
  | none => exact (mul_one κ).symm
  | some xi => simp only [powf_real, inv_real]

theorem kappaAt_prod (T : STable ℝ) (κ : ℝ) (tr : List (Step ℝ)) (k : Nat) :
    kappaAt T κ tr k = κ * ((tr.take k).map (factor T)).prod := by
  -- a fold that multiplies by `factor` is the start value times the product of the factors
  rw [kappaAt, funext₂ (nextKappa_eq T), List.prod_eq_foldl, ← List.foldl_map (g := (· * ·)), ← mul_one κ, List.foldl_assoc, mul_one]

/-- the sector formula: if `permatuhedral_sampling` succeeds, the `k`-th removed edge has the pre-rescaling parameter `∏_{j<k} ξ_j^(1/ω(g_j))`
(`g_j` the graph left after `j` removals, `ξ_j` the number drawn then), and the returned one is this times the common factor -/
theorem sector_formula (T : STable ℝ) (xs : List ℝ) (r : PermResult ℝ) (h : permutahedral T xs = some r) :
    let tr := permTrace T xs T.numEdges (Mask.full T.numEdges) 0
    r.order = tr.map (·.e) ∧ r.order.Nodup ∧ Chain T.numEdges (Mask.full T.numEdges) tr ∧
    ∀ (k : Nat) (hk : k < tr.length),
      r.xPre[(tr[k]).e]? = some (((tr.take k).map (factor T)).prod) ∧
      r.x[(tr[k]).e]? = some (((tr.take k).map (factor T)).prod * r.scaling) := by
  intro tr
  obtain ⟨st, hp, rfl⟩ := permutahedral_some h
  obtain ⟨h1, h2, h3⟩ := permLoop_trace T xs T.numEdges (Mask.full T.numEdges) _ st hp
  have hnd := chain_nodup (Mask.full T.numEdges) tr h3
  refine ⟨h2, h2 ▸ hnd, h3, fun k hk => ?_⟩
  have hget := replay_get T tr 1 (List.replicate T.numEdges 0) hnd
    (fun s hs => by rw [List.length_replicate]; exact chain_lt _ tr h3 s hs) k hk
  rw [kappaAt_prod, one_mul] at hget
  have h1' : st.x = replay T 1 (List.replicate T.numEdges 0) tr := h1
  rw [h1', List.getElem?_map, hget]
  exact ⟨rfl, rfl⟩

theorem factor_mem (T : STable ℝ) (s : Step ℝ)
    (h : ∀ xi, s.xi = some xi → 0 < xi ∧ xi ≤ 1 ∧ 0 < T.omega s.rest) : 0 < factor T s ∧ factor T s ≤ 1 := by
  unfold factor
  cases hx : s.xi with
  | none => exact ⟨Real.zero_lt_one, le_rfl⟩
  | some xi =>
    obtain ⟨h0, h1, hw⟩ := h xi hx
    exact ⟨Real.rpow_pos_of_pos h0 _, Real.rpow_le_one h0.le h1 (inv_pos.mpr hw).le⟩

/-- the parameters are positive and do not increase along the removal order, for coordinates `ξ ∈ (0,1]` of the point and `ω > 0` of the
remaining graphs (accepted table, C05): the ordering on which the largest-monomial reading of `u_trop`, `v_trop` rests -/
theorem sector_monotone (T : STable ℝ) (tr : List (Step ℝ))
    (h : ∀ s ∈ tr, ∀ xi, s.xi = some xi → 0 < xi ∧ xi ≤ 1 ∧ 0 < T.omega s.rest) (k : Nat) (hk : k < tr.length) :
    0 < ((tr.take (k + 1)).map (factor T)).prod ∧
      ((tr.take (k + 1)).map (factor T)).prod ≤ ((tr.take k).map (factor T)).prod ∧
      0 < ((tr.take k).map (factor T)).prod := by
  have hpos : ∀ n, 0 < ((tr.take n).map (factor T)).prod := fun n => List.prod_pos fun a ha => by
    obtain ⟨s, hs, rfl⟩ := List.mem_map.mp ha
    exact (factor_mem T s (h s (List.mem_of_mem_take hs))).1
  refine ⟨hpos _, ?_, hpos _⟩
  rw [List.take_add_one, List.getElem?_eq_getElem hk, Option.toList_some, List.map_append, List.prod_append, List.map_singleton,
    List.prod_singleton]
  exact mul_le_of_le_one_right (hpos k).le (factor_mem T tr[k] (h _ (List.getElem_mem hk))).2

theorem sector_antitone (T : STable ℝ) (tr : List (Step ℝ))
    (h : ∀ s ∈ tr, ∀ xi, s.xi = some xi → 0 < xi ∧ xi ≤ 1 ∧ 0 < T.omega s.rest) :
    Antitone fun k => ((tr.take k).map (factor T)).prod :=
  antitone_nat_of_succ_le fun k => by
    by_cases hk : k < tr.length
    · exact (sector_monotone T tr h k hk).2.1
    · rw [List.take_of_length_le (Nat.le_succ_of_le (Nat.le_of_not_lt hk)), List.take_of_length_le (Nat.le_of_not_lt hk)]

end R
end Momtrop.C07
