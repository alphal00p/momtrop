import Momtrop.Props.C08
/-!
# C09 — `V` is the minimum of the weighted propagator sum; independence of the routing

Exact arithmetic, every `E`, `L`, `D`: `compute_u_vectors` / `compute_v_polynomial` are `u = SᵀXp` and `V = Σ_e x_e(m_e²+|p_e|²) − uᵀL⁻¹u`;
completing the square in the loop momenta makes `V` their minimum for `x ≥ 0`; `V` does not change under a change of cycle basis, edge
re-orientations and constant offsets of the loop momenta. The identification `V·U = F` (sum over spanning 2-forests, the classical
second-Symanzik formula) is not formalised (no Cauchy–Binet in Mathlib); the 2-forest oracle decides it on the implementation.
-/
namespace Momtrop.C09
open Scalar Matrix

variable {E L : ℕ}

/-- the momentum part of `V` for one spatial component: `pᵀXp − uᵀ L⁻¹ u` -/
noncomputable def Vabs (S : Matrix (Fin E) (Fin L) ℝ) (x p : Fin E → ℝ) (Li : Matrix (Fin L) (Fin L) ℝ) : ℝ :=
  p ⬝ᵥ (diagonal x *ᵥ p) - uVec S x p ⬝ᵥ (Li *ᵥ uVec S x p)

theorem complete_the_square (S : Matrix (Fin E) (Fin L) ℝ) (x p : Fin E → ℝ) (k : Fin L → ℝ)
    (Li : Matrix (Fin L) (Fin L) ℝ) (hinv : lMat S x * Li = 1) :
    (S *ᵥ k + p) ⬝ᵥ (diagonal x *ᵥ (S *ᵥ k + p))
      = (k + Li *ᵥ uVec S x p) ⬝ᵥ (lMat S x *ᵥ (k + Li *ᵥ uVec S x p)) + Vabs S x p Li :=
  Momtrop.complete_the_square S x p k Li hinv

/-- the quadratic form of `L` is a sum of squares weighted by the Feynman parameters -/
theorem quad_nonneg (S : Matrix (Fin E) (Fin L) ℝ) (x : Fin E → ℝ) (hx : ∀ e, 0 ≤ x e) (w : Fin L → ℝ) :
    0 ≤ w ⬝ᵥ (lMat S x *ᵥ w) := by
  rw [← dotProduct_lMat, dotProduct_diagonal_mulVec]
  exact Finset.sum_nonneg fun e _ => mul_nonneg (hx e) (mul_self_nonneg _)

/-- `V` is the minimum of the weighted propagator sum over the loop momenta, attained at `k = −L⁻¹u` -/
theorem V_is_min (S : Matrix (Fin E) (Fin L) ℝ) (x p : Fin E → ℝ) (Li : Matrix (Fin L) (Fin L) ℝ)
    (hinv : lMat S x * Li = 1) (hx : ∀ e, 0 ≤ x e) :
    (∀ k, Vabs S x p Li ≤ (S *ᵥ k + p) ⬝ᵥ (diagonal x *ᵥ (S *ᵥ k + p))) ∧
    (S *ᵥ (-(Li *ᵥ uVec S x p)) + p) ⬝ᵥ (diagonal x *ᵥ (S *ᵥ (-(Li *ᵥ uVec S x p)) + p)) = Vabs S x p Li := by
  constructor
  · intro k
    rw [complete_the_square S x p k Li hinv]
    exact le_add_of_nonneg_left (quad_nonneg S x hx _)
  · rw [complete_the_square S x p _ Li hinv, neg_add_cancel, mulVec_zero, dotProduct_zero, zero_add]

theorem uVec_basis_change (S : Matrix (Fin E) (Fin L) ℝ) (x p : Fin E → ℝ) (P : Matrix (Fin L) (Fin L) ℝ) :
    uVec (S * P) x p = Pᵀ *ᵥ uVec S x p := by
  simp only [uVec, transpose_mul, mulVec_mulVec, Matrix.mul_assoc]

/-- change of cycle basis `S' = S·P`, `P` invertible -/
theorem V_basis_invariant (S : Matrix (Fin E) (Fin L) ℝ) (x p : Fin E → ℝ) (Li P Pinv : Matrix (Fin L) (Fin L) ℝ)
    (hinv : lMat S x * Li = 1) (hP : P * Pinv = 1) :
    lMat (S * P) x * (Pinv * Li * Pinvᵀ) = 1 ∧
    Vabs (S * P) x p (Pinv * Li * Pinvᵀ) = Vabs S x p Li := by
  have hPt : Pinvᵀ * Pᵀ = 1 := by simp only [← transpose_mul, hP, transpose_one]
  constructor
  · calc lMat (S * P) x * (Pinv * Li * Pinvᵀ)
        = Pᵀ * (lMat S x * ((P * Pinv) * Li)) * Pinvᵀ := by simp only [C08.lMat_basis_change, Matrix.mul_assoc]
      _ = 1 := by simp only [hP, Matrix.one_mul, hinv, Matrix.mul_one, ← transpose_mul, mul_eq_one_comm.mp hP, transpose_one]
  · -- `u' = Pᵀu`, so `u'ᵀ (P⁻¹ L⁻¹ P⁻ᵀ) u' = uᵀ (P P⁻¹) L⁻¹ (P⁻ᵀ Pᵀ) u`
    rw [Vabs, Vabs, uVec_basis_change, dotProduct_comm (Pᵀ *ᵥ _), dotProduct_transpose_mulVec, dotProduct_comm]
    simp only [mulVec_mulVec, Matrix.mul_assoc]
    rw [hPt, Matrix.mul_one, ← Matrix.mul_assoc, hP, Matrix.one_mul]

/-- edge re-orientation `S' = diag(ε) S`, `p' = ε·p` with `ε_e = ±1` -/
theorem V_orientation_invariant (S : Matrix (Fin E) (Fin L) ℝ) (x p ε : Fin E → ℝ) (Li : Matrix (Fin L) (Fin L) ℝ)
    (hε : ∀ e, ε e * ε e = 1) :
    uVec (diagonal ε * S) x (fun e => ε e * p e) = uVec S x p ∧
    Vabs (diagonal ε * S) x (fun e => ε e * p e) Li = Vabs S x p Li := by
  have hu : uVec (diagonal ε * S) x (fun e => ε e * p e) = uVec S x p := by
    funext l
    rw [uVec_apply, uVec_apply]
    refine Finset.sum_congr rfl fun e _ => ?_
    rw [diagonal_mul, mul_assoc (ε e), mul_mul_mul_comm, hε e, one_mul]
  refine ⟨hu, ?_⟩
  rw [Vabs, Vabs, hu, dotProduct_diagonal_mulVec, dotProduct_diagonal_mulVec]
  refine congrArg (· - _) (Finset.sum_congr rfl fun e _ => ?_)
  rw [mul_mul_mul_comm, hε e, one_mul]

/-- constant offsets of the loop momenta, `p' = p + S c` -/
theorem V_offset_invariant (S : Matrix (Fin E) (Fin L) ℝ) (x p : Fin E → ℝ) (c : Fin L → ℝ)
    (Li : Matrix (Fin L) (Fin L) ℝ) (hinv : lMat S x * Li = 1) :
    Vabs S x (p + S *ᵥ c) Li = Vabs S x p Li := by
  -- complete the square of the same point `S c + p = S 0 + (p + S c)` in both ways: the squares agree, since
  -- `L⁻¹ u(p + S c) = L⁻¹ u(p) + c`, so the constant terms do
  have hu : Li *ᵥ uVec S x (p + S *ᵥ c) = c + Li *ᵥ uVec S x p := by
    have : uVec S x (p + S *ᵥ c) = uVec S x p + lMat S x *ᵥ c := by
      simp only [uVec, lMat, mulVec_add, mulVec_mulVec, Matrix.mul_assoc]
    simp only [this, mulVec_add, mulVec_mulVec, mul_eq_one_comm.mp hinv, one_mulVec, add_comm]
  have h1 := complete_the_square S x (p + S *ᵥ c) 0 Li hinv
  have h2 := complete_the_square S x p c Li hinv
  simp only [mulVec_zero, zero_add, hu] at h1
  rw [add_comm] at h2
  exact add_left_cancel (h1.symm.trans h2)

theorem compOf_uVectors (x : List ℝ) (S : List (List Int)) (D : Nat) (shifts : List (Vec ℝ)) {i : Nat} (hi : i < D) :
    compOf (S.getD 0 []).length (uVectors D x S shifts) i = uVec (Sm S) (xv x S) (pv S shifts i) := by
  funext l
  rw [uVec_apply, compOf, uVectors, List.getD_map_range _ _ _ l.2,
    foldl_range_get _ (fun e => (sigGet S e l : ℝ) * x.getD e 0 * (shifts.getD e []).get i) i, Finset.sum_range]
  · rfl
  · intro acc e
    rw [C20.add_get D _ _ hi, smul_get_real, ofInt_real, zero_real, mul_comm]

theorem uVectors_length (x : List ℝ) (S : List (List Int)) (D : Nat) (shifts : List (Vec ℝ)) :
    (uVectors D x S shifts).length = (S.getD 0 []).length := by
  rw [uVectors, List.length_map, List.length_range]

theorem uVectors_getD_length (x : List ℝ) (S : List (List Int)) (D : Nat) (shifts : List (Vec ℝ)) {l : Nat}
    (hl : l < (S.getD 0 []).length) :
    ((uVectors D x S shifts).getD l []).length = D := by
  rw [uVectors, List.getD_map_range _ _ _ hl]
  exact List.foldlRecOn (motive := fun v : Vec ℝ => v.length = D) _ _ (C20.zeros_length D) fun _ _ _ _ => C20.add_length D _ _

/-- closed forms of the folds of `compute_u_vectors` and, below, `compute_v_polynomial` -/
theorem model_u (x : List ℝ) (S : List (List Int)) (D : Nat) (shifts : List (Vec ℝ)) {i : Nat} (hi : i < D)
    (l : Fin (S.getD 0 []).length) :
    ((uVectors D x S shifts).getD l []).get i = uVec (Sm S) (xv x S) (pv S shifts i) l :=
  congrFun (compOf_uVectors x S D shifts hi) l

theorem model_v (En nL : Nat) (xs ms : List ℝ) (u sh : List (Vec ℝ)) (Linv : Mat ℝ)
    (hx : xs.length = En) (hm : ms.length = En) (hs : sh.length = En) :
    vPolynomial xs u Linv nL sh ms
      = (∑ e ∈ Finset.range En, (ms.getD e 0 * ms.getD e 0 + Vec.squared (sh.getD e [])) * xs.getD e 0)
        - (∑ l ∈ Finset.range nL, Vec.squared (u.getD l []) * Linv.get l l)
        - ∑ i ∈ Finset.range nL, ∑ j ∈ Finset.range nL,
            if i < j then 2 * Vec.dot (u.getD i []) (u.getD j []) * Linv.get i j else 0 := by
  rw [vPolynomial, subFold_eq, subFold_eq, zip3_eq_range En xs ms sh 0 0 [] hx hm hs, List.map_map, sumFrom_range, sum_flatMap_pairs, ofInt_real]
  rfl

/-- the model's `v` in the form in which `C10.propSum_total` takes it -/
theorem model_v_Vabs (x : List ℝ) (S : List (List Int)) (D : Nat) (shifts : List (Vec ℝ)) (masses : List ℝ) (Linv : Mat ℝ)
    (hx : x.length = S.length) (hm : masses.length = S.length) (hs : shifts.length = S.length)
    (hsD : ∀ e, e < S.length → (shifts.getD e []).length = D) (hsym : SymmOn Linv (S.getD 0 []).length) :
    vPolynomial x (uVectors D x S shifts) Linv (S.getD 0 []).length shifts masses
      = (∑ e, xv x S e * (masses.getD e 0 * masses.getD e 0))
        + ∑ i : Fin D, Vabs (Sm S) (xv x S) (pv S shifts i) (M (S.getD 0 []).length Linv) := by
  rw [model_v S.length _ x masses _ shifts Linv hx hm hs, sub_sub,
    sum_quad_compOf D _ _ Linv (fun l hl => uVectors_getD_length x S D shifts hl) hsym, sum_mass_shift S D x masses shifts hsD,
    add_sub_assoc, ← Finset.sum_sub_distrib]
  simp only [compOf_uVectors x S D shifts (Fin.is_lt _), Vabs]

end Momtrop.C09
