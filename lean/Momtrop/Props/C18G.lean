import Momtrop.Generated.SerdeSchema
/-!
# C18, schema-generic: the derive round trip is the identity for EVERY schema

`dec_enc` holds for every schema, type and well-typed value. The schema is **regenerated from `/repo/src` on every run** and
`generated_schema_ok` is evaluated on it: only modelled field types, resolvable struct references, no `#[serde(..)]` attribute on
any field or struct, no manual `Serialize`/`Deserialize` impl, root struct `SampleGenerator`. A field order change, a rename or a
new plain field keeps this true, and keeps the round trip the identity; a `skip`, `with`, `default`, `skip_serializing_if`, a
manual impl or an unmodelled field type makes it false, and the build fails.
-/
namespace Momtrop.C18G
open Momtrop.SerdeG

/-- By induction along `hasTy`: its cases are the well-typed shapes, plus one case each for `hasTy` and `hasTyFields` that
collects every ill-typed pair, where the typing hypothesis is `false = true`. -/
theorem dec_enc_all (S : Schema) :
    (∀ (ty : Ty) (d : Data), hasTy S ty d = true → dec S ty (enc S ty d) = some d) ∧
    (∀ (fs : Fields) (l : DataList), hasTyFields S fs l = true → decFields S fs (encFields S fs l) = some l) ∧
    (∀ (t : Ty) (l : DataList), hasTyList S t l = true → decList S t (encList S t l) = some l) := by
  apply hasTy.mutual_induct S
  case case5 =>
    -- a sequence
    intro t l ih h
    rw [enc, dec, ih h]
    rfl
  case case6 =>
    -- a record of a struct the schema knows
    intro name l fs hl ih h
    simp only [hasTy, hl] at h
    simp only [enc, dec, hl, ih h, Option.map_some]
  case case7 =>
    -- a record of an unknown struct: ill-typed
    intro name l hl h
    simp only [hasTy, hl] at h
    cases h
  case case8 =>
    -- every other pair of a type and a value: ill-typed
    intro d ty _ _ _ _ _ _ h
    rw [hasTy] at h
    · cases h
    all_goals assumption
  case case10 =>
    -- a field and a value, then the rest
    intro k t fs d rest ih1 ih2 h
    simp only [hasTyFields, Bool.and_eq_true] at h
    simp only [encFields, decFields, if_true, ih1 h.1, ih2 h.2]
  case case11 =>
    -- fields and values of different number: ill-typed
    intro l fs _ _ h
    rw [hasTyFields] at h
    · cases h
    all_goals assumption
  case case13 =>
    -- a sequence element, then the rest
    intro t d rest ih1 ih2 h
    simp only [hasTyList, Bool.and_eq_true] at h
    simp only [encList, decList, ih1 h.1, ih2 h.2]
  -- left: the four base types (cases 1-4) and the empty lists (9, 12), where decoding the encoding computes to the value
  all_goals
    intros
    rfl

theorem dec_enc (S : Schema) : ∀ (ty : Ty) (d : Data), hasTy S ty d = true → dec S ty (enc S ty d) = some d :=
  (dec_enc_all S).1

theorem dec_enc_list (S : Schema) : ∀ (t : Ty) (l : DataList), hasTyList S t l = true → decList S t (encList S t l) = some l :=
  (dec_enc_all S).2.2

theorem dec_enc_fields (S : Schema) : ∀ (fs : Fields) (l : DataList), hasTyFields S fs l = true →
    decFields S fs (encFields S fs l) = some l :=
  (dec_enc_all S).2.1

open Momtrop.Generated in
/-- the conditions under which the derive semantics modelled by `enc`/`dec` is what the source asks for -/
theorem generated_schema_ok :
    schemaOk typedSchema = true ∧ fieldAttrs = [] ∧ serdeCustomisations = [] ∧
    (lookup typedSchema "SampleGenerator").isSome = true ∧ serdeBoth = typedSchema.map (·.1) := by
  -- `+kernel`: evaluated once, by the kernel; otherwise the elaborator first evaluates the string comparisons itself, which is slower
  decide +kernel

open Momtrop.Generated in
/-- every value of the regenerated `SampleGenerator` type deserialises to itself -/
theorem roundtrip_generated (d : Data) (h : hasTy typedSchema (.struct "SampleGenerator") d = true) :
    dec typedSchema (.struct "SampleGenerator") (enc typedSchema (.struct "SampleGenerator") d) = some d :=
  dec_enc typedSchema _ d h

open Momtrop.Generated in
theorem observation_after_roundtrip {β : Type} (observe : Data → β) (d : Data)
    (h : hasTy typedSchema (.struct "SampleGenerator") d = true) :
    (dec typedSchema (.struct "SampleGenerator") (enc typedSchema (.struct "SampleGenerator") d)).map observe = some (observe d) := by
  rw [roundtrip_generated d h]; rfl

def dataListOf : List Data → DataList
  | [] => .nil
  | d :: ds => .cons d (dataListOf ds)

/-- a default value of a type (zeros, `false`, a negative integer, one-element sequences); fuel bounds the nesting depth -/
def defaultOf (S : Schema) : Nat → Ty → Data
  | 0, _ => .nat 0
  | _ + 1, .nat => .nat 0
  | _ + 1, .int => .int (-1)
  | _ + 1, .f64 => .f64 0
  | _ + 1, .bool => .bool false
  | n + 1, .seq t => .seq (.cons (defaultOf S n t) .nil)
  | n + 1, .struct name =>
    match lookup S name with
    | some fs => .record (dataListOf (fs.map fun f => defaultOf S n f.2))
    | none => .record .nil
  | _ + 1, .other _ => .nat 0

open Momtrop.Generated in
/-- non-vacuity: the regenerated root type is inhabited by a well-typed value (with non-empty sequences and a negative integer) -/
theorem default_inhabits : hasTy typedSchema (.struct "SampleGenerator") (defaultOf typedSchema 8 (.struct "SampleGenerator")) = true := by
  decide +kernel

end Momtrop.C18G
