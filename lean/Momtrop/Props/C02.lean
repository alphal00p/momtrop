import Momtrop.Proofs.RealInst
/-!
# C02 — sample weights are bounded by graph- and kinematics-only constants

Exact arithmetic. The bounds follow from two identities that are cited rather than formalised (`U = Σ_T m_T` over spanning trees,
`F = Σ c_F m_F` over 2-forests and mass terms — C08/C09) and from the tropical values being the *largest* monomials (C07; `C02U.lean`
draws the premise on `U` from it). Given those, a positive polynomial lies between its largest monomial and the number of monomials times
it, and the ratio `(U_tr/U)^{D/2} (V_tr/V)^{dod}` lies in an interval that depends only on `N_T`, `c_min`, `C_sum`.
-/
namespace Momtrop.C02

variable {ι : Type} [Fintype ι]

/-- the form for `F = Σ c_i m_i`: between `c_min` and `Σ c_i` times its largest monomial -/
theorem weighted_between_max (c m : ι → ℝ) (cmin Mx : ℝ) (hc : ∀ i, cmin ≤ c i) (hcmin : 0 ≤ cmin)
    (hnn : ∀ i, 0 ≤ m i) (hle : ∀ i, m i ≤ Mx) (hatt : ∃ i, m i = Mx) :
    cmin * Mx ≤ ∑ i, c i * m i ∧ ∑ i, c i * m i ≤ (∑ i, c i) * Mx := by
  constructor
  · obtain ⟨i, hi⟩ := hatt
    calc cmin * Mx = cmin * m i := by rw [hi]
      _ ≤ c i * m i := mul_le_mul_of_nonneg_right (hc i) (hnn i)
      _ ≤ ∑ j, c j * m j :=
        Finset.single_le_sum (f := fun j => c j * m j)
          (fun j _ => mul_nonneg (le_trans hcmin (hc j)) (hnn j)) (Finset.mem_univ i)
  · rw [Finset.sum_mul]
    exact Finset.sum_le_sum fun i _ => mul_le_mul_of_nonneg_left (hle i) (le_trans hcmin (hc i))

/-- the form for `U` (unit coefficients) -/
theorem sum_between_max (m : ι → ℝ) (Mx : ℝ) (hnn : ∀ i, 0 ≤ m i) (hle : ∀ i, m i ≤ Mx) (hatt : ∃ i, m i = Mx) :
    Mx ≤ ∑ i, m i ∧ ∑ i, m i ≤ Fintype.card ι * Mx := by
  have := weighted_between_max (fun _ => 1) m 1 Mx (fun _ => le_rfl) zero_le_one hnn hle hatt
  simp only [one_mul, Finset.sum_const, nsmul_eq_mul, mul_one] at this
  exact this

/-- the weight ratio is bounded by constants of graph and kinematics, conditional on the four polynomial bounds `hU1` … `hV2` -/
theorem ratio_bounds (U Utr V Vtr N cmin Csum halfD dod : ℝ)
    (hUt : 0 < Utr) (hVt : 0 < Vtr) (hN : 1 ≤ N) (hcmin : 0 < cmin) (hC : 0 < Csum)
    (hhalf : 0 ≤ halfD) (hdod : 0 ≤ dod)
    (hU1 : Utr ≤ U) (hU2 : U ≤ N * Utr) (hV1 : cmin / N * Vtr ≤ V) (hV2 : V ≤ Csum * Vtr) :
    N ^ (-halfD) * Csum ^ (-dod) ≤ (Utr / U) ^ halfD * (Vtr / V) ^ dod ∧
    (Utr / U) ^ halfD * (Vtr / V) ^ dod ≤ (N / cmin) ^ dod := by
  -- found once; each of the order lemmas on `/` below would search for it again
  have : PosMulReflectLT ℝ := inferInstance
  have hN0 : 0 < N := lt_of_lt_of_le Real.zero_lt_one hN
  have hU : 0 < U := lt_of_lt_of_le hUt hU1
  have hV : 0 < V := lt_of_lt_of_le (mul_pos (div_pos hcmin hN0) hVt) hV1
  have a0 : 0 ≤ Utr / U := (div_pos hUt hU).le
  have b0 : 0 ≤ Vtr / V := (div_pos hVt hV).le
  have a1 : 1 / N ≤ Utr / U := by
    rw [div_le_div_iff₀ hN0 hU, one_mul, mul_comm]
    exact hU2
  have a2 : Utr / U ≤ 1 := (div_le_one hU).mpr hU1
  have b1 : 1 / Csum ≤ Vtr / V := by
    rw [div_le_div_iff₀ hC hV, one_mul, mul_comm]
    exact hV2
  have b2 : Vtr / V ≤ N / cmin := by
    rw [div_le_div_iff₀ hV hcmin, mul_comm]
    have := mul_le_mul_of_nonneg_left hV1 hN0.le
    rwa [← mul_assoc, mul_div_cancel₀ _ hN0.ne'] at this
  constructor
  · rw [Real.rpow_neg hN0.le, Real.rpow_neg hC.le, ← Real.inv_rpow hN0.le, ← Real.inv_rpow hC.le, ← one_div, ← one_div]
    exact mul_le_mul (Real.rpow_le_rpow (one_div_pos.mpr hN0).le a1 hhalf) (Real.rpow_le_rpow (one_div_pos.mpr hC).le b1 hdod)
      (Real.rpow_nonneg (one_div_pos.mpr hC).le _) (Real.rpow_nonneg a0 _)
  · calc (Utr / U) ^ halfD * (Vtr / V) ^ dod ≤ 1 * (N / cmin) ^ dod :=
          mul_le_mul (Real.rpow_le_one a0 a2 hhalf) (Real.rpow_le_rpow b0 b2 hdod) (Real.rpow_nonneg b0 _) zero_le_one
      _ = (N / cmin) ^ dod := one_mul _

/-- non-vacuity: the hypotheses are satisfiable (massive bubble-like numbers) -/
example : ∃ U Utr V Vtr N cmin Csum : ℝ, 0 < Utr ∧ 0 < Vtr ∧ 1 ≤ N ∧ 0 < cmin ∧ 0 < Csum ∧
    Utr ≤ U ∧ U ≤ N * Utr ∧ cmin / N * Vtr ≤ V ∧ V ≤ Csum * Vtr :=
  ⟨3, 2, 5, 4, 2, 1, 3, by norm_num, by norm_num, by norm_num, by norm_num, by norm_num, by norm_num,
    by norm_num, by norm_num, by norm_num⟩

end Momtrop.C02
