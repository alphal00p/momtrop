import Momtrop.Props.C03
import Momtrop.Proofs.RealInst
/-!
# C03 over `ℝ` — the table's generalised degrees of divergence along a removal (the premise of C01)

`genDod_step`: `ω(g) − ω(g∖e) = w_e − (L(g) − L(g∖e))·D/2 − dod·([g spanning] − [g∖e spanning])` for the `ω`, `L` and spanning flag that
`preEntry` (= `generate_from_tropical`) stores: the premise `C01.Consistent` of the sector-density theorem, on the table itself
(`C01.consistent_along` uses the form `genDod_pop_bool`, which also covers the last removal). That `L`
drops by `0` or `1` and that spanning is never gained are `C01.loopsT_step`, `C01.spanT_mono` (Props/C01Table); the C03 check also tests
both on the implementation's flags.
-/
namespace Momtrop.C03
open Scalar

theorem weightSum_real (top : List (TEdge ℝ)) (s : List Nat) :
    weightSum top s = (s.map fun i => match top[i]? with | some t => t.weight | none => (0:ℝ)).sum := by
  unfold weightSum
  rw [sumIter_eq]
  congr 1
  apply List.map_congr_left
  intro i _
  cases top[i]? <;> rfl

theorem weightSum_pop (top : List (TEdge ℝ)) (n : Nat) (g : Mask) (e : Nat) (he : e ∈ Mask.edges n g) :
    weightSum top (Mask.edges n g)
      = (match top[e]? with | some t => t.weight | none => (0:ℝ)) + weightSum top (Mask.edges n (Mask.pop g e)) := by
  rw [weightSum_real, weightSum_real, Mask.edges_pop_erase n g e he]
  exact (List.sum_map_erase (fun i => match top[i]? with | some t => t.weight | none => (0:ℝ)) he).symm

/-- the empty subset is read as `0`, as `C01.Consistent` reads what is left after the last removal; the right side is `0` there too -/
theorem genDod_real (G : TGraph ℝ) (D : Nat) (g : Mask) :
    (if g = 0 then 0 else (preEntry G D g).2.2) = weightSum G.topology (Mask.edges G.topology.length g)
      - ((preEntry G D g).2.1 : ℝ) * (D : ℝ) / 2 - G.dod * (if (preEntry G D g).1 then 1 else 0) := by
  by_cases h : g = 0
  · rw [if_pos h, h, (preEntry_flags G D 0).1, (preEntry_flags G D 0).2, Mask.edges_zero, spanning_nil, Momtrop.loopNumber_nil,
      weightSum_real]
    simp only [List.map_nil, List.sum_nil, Nat.cast_zero, zero_mul, zero_div, sub_self, Bool.false_eq_true, if_false, mul_zero]
  · rw [if_neg h, genDod_nonempty G D g h, ← (preEntry_flags G D g).1, ← (preEntry_flags G D g).2]
    simp only [ofInt_real, Int.cast_natCast, Int.cast_ofNat]
    rw [mul_ite, mul_one, mul_zero, sub_ite, _root_.sub_zero]

theorem drop_indicator {l1 l2 : Nat} (h : l1 = l2 ∨ l1 = l2 + 1) : ((l1 : ℝ) - l2) = if decide (l1 ≠ l2) then 1 else 0 := by
  rcases h with rfl | rfl
  · rw [sub_self, if_neg (by simp)]
  · rw [Nat.cast_succ, add_sub_cancel_left, if_pos (decide_eq_true (Nat.succ_ne_self _))]

theorem lost_indicator {b1 b2 : Bool} (h : b2 = true → b1 = true) :
    ((if b1 then 1 else 0) - (if b2 then 1 else 0) : ℝ) = if (b1 && !b2) then 1 else 0 := by
  cases b2
  · rw [if_neg Bool.false_ne_true, _root_.sub_zero, Bool.not_false, Bool.and_true]
  · rw [h rfl]
    exact sub_self _

theorem genDod_pop (G : TGraph ℝ) (D : Nat) (g : Mask) (e : Nat) (he : e ∈ Mask.edges G.topology.length g) :
    (if g = 0 then 0 else (preEntry G D g).2.2) - (if Mask.pop g e = 0 then 0 else (preEntry G D (Mask.pop g e)).2.2)
      = (match G.topology[e]? with | some t => t.weight | none => (0:ℝ))
        - (((preEntry G D g).2.1 : ℝ) - ((preEntry G D (Mask.pop g e)).2.1 : ℝ)) * (D : ℝ) / 2
        - G.dod * ((if (preEntry G D g).1 then 1 else 0) - (if (preEntry G D (Mask.pop g e)).1 then 1 else 0)) := by
  rw [genDod_real, genDod_real, weightSum_pop G.topology G.topology.length g e he]
  ring

theorem genDod_pop_bool (G : TGraph ℝ) (D : Nat) (g : Mask) (e : Nat) (he : e ∈ Mask.edges G.topology.length g)
    (hL : (preEntry G D g).2.1 = (preEntry G D (Mask.pop g e)).2.1 ∨ (preEntry G D g).2.1 = (preEntry G D (Mask.pop g e)).2.1 + 1)
    (hS : (preEntry G D (Mask.pop g e)).1 = true → (preEntry G D g).1 = true) :
    (if g = 0 then 0 else (preEntry G D g).2.2) - (if Mask.pop g e = 0 then 0 else (preEntry G D (Mask.pop g e)).2.2)
      = (match G.topology[e]? with | some t => t.weight | none => (0:ℝ))
        - (D : ℝ) / 2 * (if decide ((preEntry G D g).2.1 ≠ (preEntry G D (Mask.pop g e)).2.1) then 1 else 0)
        - G.dod * (if ((preEntry G D g).1 && !(preEntry G D (Mask.pop g e)).1) then 1 else 0) := by
  rw [genDod_pop G D g e he, drop_indicator hL, lost_indicator hS, mul_div_assoc, mul_comm _ ((D : ℝ) / 2)]

theorem genDod_step (G : TGraph ℝ) (D : Nat) (g : Mask) (e : Nat)
    (he : e ∈ Mask.edges G.topology.length g) (hg : g ≠ 0) (hne : Mask.pop g e ≠ 0) :
    (preEntry G D g).2.2 - (preEntry G D (Mask.pop g e)).2.2
      = (match G.topology[e]? with | some t => t.weight | none => (0:ℝ))
        - (((preEntry G D g).2.1 : ℝ) - ((preEntry G D (Mask.pop g e)).2.1 : ℝ)) * (D : ℝ) / 2
        - G.dod * ((if (preEntry G D g).1 then 1 else 0) - (if (preEntry G D (Mask.pop g e)).1 then 1 else 0)) := by
  have h := genDod_pop G D g e he
  rwa [if_neg hg, if_neg hne] at h

/-- with the Boolean step flags `dL`, `dS` of `C01.StepData`; `hL`, `hS` are `C01.loopsT_step`, `C01.spanT_mono` -/
theorem genDod_step_bool (G : TGraph ℝ) (D : Nat) (g : Mask) (e : Nat)
    (he : e ∈ Mask.edges G.topology.length g) (hg : g ≠ 0) (hne : Mask.pop g e ≠ 0)
    (hL : (preEntry G D g).2.1 = (preEntry G D (Mask.pop g e)).2.1 ∨ (preEntry G D g).2.1 = (preEntry G D (Mask.pop g e)).2.1 + 1)
    (hS : (preEntry G D (Mask.pop g e)).1 = true → (preEntry G D g).1 = true) :
    (preEntry G D g).2.2 - (preEntry G D (Mask.pop g e)).2.2
      = (match G.topology[e]? with | some t => t.weight | none => (0:ℝ))
        - (D : ℝ) / 2 * (if decide ((preEntry G D g).2.1 ≠ (preEntry G D (Mask.pop g e)).2.1) then 1 else 0)
        - G.dod * (if ((preEntry G D g).1 && !(preEntry G D (Mask.pop g e)).1) then 1 else 0) := by
  have h := genDod_pop_bool G D g e he hL hS
  rwa [if_neg hg, if_neg hne] at h

end Momtrop.C03
