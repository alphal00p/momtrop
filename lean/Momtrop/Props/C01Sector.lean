import Momtrop.Props.C04
import Momtrop.Proofs.Substitution
import Mathlib.Analysis.SpecialFunctions.Pow.Deriv
/-!
# C01 — the law of the Feynman parameters inside one sector (Borinsky's sector density, as a theorem)

Inside a sector (a removal order `s_1,…,s_E`) the sampler sets `y_0 = 1`, `y_k = y_{k-1}·ξ_k^{1/ω_k}` (`ω_k` the generalised degree of
divergence of what is left after `k` removals, `y_k` the Feynman parameter of `s_{k+1}` relative to that of `s_1`: `C07.sector_formula`).
One step is a power law (`xi_power_law`). Chained, the steps integrate over `1 > y_1 > … > y_n > 0` against the product of the conditional
densities `ω_k y_k^{ω_k−1} / y_{k−1}^{ω_k}` (`chain_law`), which telescopes to `(Π ω_k) · Π y_k^{ω_k − ω_{k+1} − 1}` (`dens_closed`). With
the table's `ω_k − ω_{k+1} = ν_k − (D/2)·dL_k − dod·dS_k` (`Consistent`) this is `(Π ω_k) · Π x_e^{ν_e−1} / (U_tr^{D/2} · V_tr^{dod})`
(`dens_tropical`; `C07.permLoop_trop` identifies the two products with the reported tropical polynomials), and the probability of the
sector, `Π 1/ω_k / J(G)`, cancels `Π ω_k`: one density in every sector. Every statement is about iterated integrals and follows from the
one-dimensional `xi_power_law` by induction on the number of steps; no multi-dimensional change of variables is needed.
-/
namespace Momtrop.C01

section
open MeasureTheory

/-- The step `λ = inverse_gamma_lr(dod, x)` of `sample`, for an exact quantile function `G` of a CDF `F`: the image of the uniform law
under `G` has density `|F'|`. -/
theorem inverse_cdf_law (F F' G : ℝ → ℝ) (hF : ∀ x ∈ Set.Ioi (0:ℝ), HasDerivWithinAt F (F' x) (Set.Ioi 0) x)
    (hinj : Set.InjOn F (Set.Ioi 0)) (himg : F '' Set.Ioi 0 = Set.Ioo 0 1)
    (hG : ∀ p ∈ Set.Ioo (0:ℝ) 1, G p ∈ Set.Ioi (0:ℝ) ∧ F (G p) = p) (f : ℝ → ENNReal) :
    ∫⁻ p in Set.Ioo (0:ℝ) 1, f (G p) = ∫⁻ x in Set.Ioi (0:ℝ), ENNReal.ofReal (_root_.abs (F' x)) * f x := by
  have hFm : Set.MapsTo F (Set.Ioi 0) (Set.Ioo 0 1) := himg ▸ Set.mapsTo_image F _
  exact lintegral_subst_inv measurableSet_Ioi hF hFm (fun p hp => (hG p hp).1)
    ⟨fun x hx => hinj (hG _ (hFm hx)).1 hx (hG _ (hFm hx)).2, fun p hp => (hG p hp).2⟩ f

theorem stepDens_nonneg {c ω y : ℝ} (hc : 0 ≤ c) (hω : 0 ≤ ω) (hy : 0 ≤ y) : 0 ≤ ω * y ^ (ω - 1) / c ^ ω :=
  div_nonneg (mul_nonneg hω (Real.rpow_nonneg hy _)) (Real.rpow_nonneg hc _)

/-- one step of the sector sample: `y = c·ξ^(1/ω)` for uniform `ξ` -/
theorem xi_power_law (c ω : ℝ) (hc : 0 < c) (hω : 0 < ω) (f : ℝ → ENNReal) :
    ∫⁻ ξ in Set.Ioo (0:ℝ) 1, f (c * ξ ^ (1 / ω)) = ∫⁻ y in Set.Ioo (0:ℝ) c, ENNReal.ofReal (ω * y ^ (ω - 1) / c ^ ω) * f y := by
  have hcω : 0 < c ^ ω := Real.rpow_pos_of_pos hc ω
  -- `ξ = (y/c)^ω`, written `y^ω / c^ω` so that its derivative has the stated form
  rw [lintegral_subst_inv (F := fun y => y ^ ω / c ^ ω) (F' := fun y => ω * y ^ (ω - 1) / c ^ ω) measurableSet_Ioo]
  · refine setLIntegral_congr_fun measurableSet_Ioo fun y hy => ?_
    rw [abs_of_nonneg (stepDens_nonneg hc.le hω.le hy.1.le)]
  · exact fun y hy => ((Real.hasDerivAt_rpow_const (Or.inl hy.1.ne')).div_const _).hasDerivWithinAt
  · exact fun y hy => ⟨div_pos (Real.rpow_pos_of_pos hy.1 ω) hcω,
      (div_lt_one hcω).mpr (Real.rpow_lt_rpow hy.1.le hy.2 hω)⟩
  · exact fun ξ hξ => ⟨mul_pos hc (Real.rpow_pos_of_pos hξ.1 _),
      mul_lt_of_lt_one_right hc (Real.rpow_lt_one hξ.1.le hξ.2 (one_div_pos.mpr hω))⟩
  · constructor
    · intro y hy
      show c * (y ^ ω / c ^ ω) ^ (1 / ω) = y
      rw [← Real.div_rpow hy.1.le hc.le, one_div, Real.rpow_rpow_inv (div_pos hy.1 hc).le hω.ne', mul_div_cancel₀ _ hc.ne']
    · intro ξ hξ
      show (c * ξ ^ (1 / ω)) ^ ω / c ^ ω = ξ
      rw [Real.mul_rpow hc.le (Real.rpow_nonneg hξ.1.le _), one_div, Real.rpow_inv_rpow hξ.1.le hω.ne',
        mul_div_cancel_left₀ _ hcω.ne']

end

open MeasureTheory Set
open scoped ENNReal

/-- the sampler's chain, integrated over the uniform numbers: `y_k = y_{k-1} ξ_k^{1/ω_k}`, started at `c` -/
noncomputable def chainInt : List ℝ → ℝ → (List ℝ → ℝ≥0∞) → ℝ≥0∞
  | [], _, f => f []
  | ω :: ωs, c, f => ∫⁻ ξ in Ioo (0:ℝ) 1, chainInt ωs (c * ξ ^ (1 / ω)) fun ys => f ((c * ξ ^ (1 / ω)) :: ys)

/-- iterated Lebesgue integral over the ordered region `c > y_1 > … > y_n > 0` (`ωs` only fixes the number of variables) -/
noncomputable def nested : List ℝ → ℝ → (List ℝ → ℝ≥0∞) → ℝ≥0∞
  | [], _, g => g []
  | _ :: ωs, c, g => ∫⁻ y in Ioo (0:ℝ) c, nested ωs y fun ys => g (y :: ys)

/-- product of the conditional densities (`y_0 = c`) -/
noncomputable def dens : List ℝ → ℝ → List ℝ → ℝ
  | ω :: ωs, c, y :: ys => ω * y ^ (ω - 1) / c ^ ω * dens ωs y ys
  | _, _, _ => 1

theorem nested_const_mul (r : ℝ≥0∞) (hr : r ≠ ∞) :
    ∀ (ωs : List ℝ) (c : ℝ) (g : List ℝ → ℝ≥0∞), nested ωs c (fun ys => r * g ys) = r * nested ωs c g := by
  intro ωs
  induction ωs with
  | nil => intro c g; rfl
  | cons ω ωs ih =>
    intro c g
    simp only [nested, ih]
    exact lintegral_const_mul' r _ hr

theorem nested_congr_pos : ∀ (ωs : List ℝ) (c : ℝ) (g g' : List ℝ → ℝ≥0∞),
    (∀ ys : List ℝ, ys.length = ωs.length → (∀ y ∈ ys, 0 < y) → g ys = g' ys) → nested ωs c g = nested ωs c g' := by
  intro ωs
  induction ωs with
  | nil => intro c g g' h; exact h [] rfl (List.forall_mem_nil _)
  | cons ω ωs ih =>
    intro c g g' h
    refine setLIntegral_congr_fun measurableSet_Ioo fun y hy => ih y _ _ fun ys hlen hpos => ?_
    exact h (y :: ys) (congrArg (· + 1) hlen) (List.forall_mem_cons.mpr ⟨hy.1, hpos⟩)

theorem chain_law : ∀ (ωs : List ℝ), (∀ ω ∈ ωs, 0 < ω) → ∀ (c : ℝ), 0 < c → ∀ f : List ℝ → ℝ≥0∞,
    chainInt ωs c f = nested ωs c fun ys => ENNReal.ofReal (dens ωs c ys) * f ys := by
  intro ωs
  induction ωs with
  | nil => intro _ c _ f; simp [chainInt, nested, dens]
  | cons ω ωs ih =>
    intro hω c hc f
    rw [List.forall_mem_cons] at hω
    simp only [chainInt]
    rw [xi_power_law c ω hc hω.1 fun y => chainInt ωs y fun ys => f (y :: ys)]
    refine setLIntegral_congr_fun measurableSet_Ioo fun y hy => ?_
    -- `dens.eq_1`, the equation for two non-empty lists: with `dens`, `simp` also tries the catch-all equation at `dens ωs y ys`, four times in vain
    simp only [ih hω.2 y hy.1, ← nested_const_mul _ ENNReal.ofReal_ne_top, dens.eq_1,
      ENNReal.ofReal_mul (stepDens_nonneg hc.le hω.1.le hy.1.le), mul_assoc]

/-! ### closed form of the density -/

noncomputable def omegaProd (ωs : List ℝ) : ℝ := ωs.prod

/-- the telescoped product, with `ω_{n+1} = 0` -/
noncomputable def abelProd : List ℝ → List ℝ → ℝ
  | ω :: ωs, y :: ys => y ^ (ω - ωs.headD 0 - 1) * abelProd ωs ys
  | _, _ => 1

theorem dens_closed : ∀ (ωs ys : List ℝ) (c : ℝ), ωs.length = ys.length → 0 < c → (∀ y ∈ ys, 0 < y) →
    dens ωs c ys = omegaProd ωs * c ^ (-(ωs.headD 0)) * abelProd ωs ys := by
  intro ωs
  induction ωs with
  | nil => intro ys c _ _ _; simp [dens, omegaProd, abelProd]
  | cons ω ωs ih =>
    intro ys c hlen hc hy
    cases ys with
    | nil => exact absurd hlen (Nat.succ_ne_zero _)
    | cons y ys =>
      rw [List.forall_mem_cons] at hy
      simp only [dens, abelProd, omegaProd, List.prod_cons, List.headD_cons]
      rw [ih ys y (Nat.succ.inj hlen) hy.1 hy.2, omegaProd, sub_right_comm, sub_eq_add_neg (ω - 1), Real.rpow_add hy.1,
        Real.rpow_neg hc.le, div_eq_mul_inv]
      ring

/-- one removal step as the table sees it: the weight of the edge whose parameter is `y`, whether removing it lowers the loop number,
whether it loses mass-momentum spanning -/
structure StepData where
  nu : ℝ
  dL : Bool
  dS : Bool

noncomputable def weightProd : List StepData → List ℝ → ℝ
  | s :: ss, y :: ys => y ^ (s.nu - 1) * weightProd ss ys
  | _, _ => 1

/-- `U_tr` in the sector: the product of the parameters of the removals that lower the loop number (`C07.permLoop_trop`) -/
noncomputable def uTrop : List StepData → List ℝ → ℝ
  | s :: ss, y :: ys => (if s.dL then y else 1) * uTrop ss ys
  | _, _ => 1

/-- `V_tr` in the sector: the parameter of the removal that loses mass-momentum spanning -/
noncomputable def vTrop : List StepData → List ℝ → ℝ
  | s :: ss, y :: ys => (if s.dS then y else 1) * vTrop ss ys
  | _, _ => 1

theorem uTrop_pos (ss : List StepData) (ys : List ℝ) (hy : ∀ y ∈ ys, 0 < y) : 0 < uTrop ss ys := by
  fun_induction uTrop ss ys with
  | case1 s ss y ys ih =>
    rw [List.forall_mem_cons] at hy
    exact mul_pos (ite_pos hy.1 Real.zero_lt_one) (ih hy.2)
  | case2 => exact Real.zero_lt_one

theorem vTrop_pos (ss : List StepData) (ys : List ℝ) (hy : ∀ y ∈ ys, 0 < y) : 0 < vTrop ss ys := by
  fun_induction vTrop ss ys with
  | case1 s ss y ys ih =>
    rw [List.forall_mem_cons] at hy
    exact mul_pos (ite_pos hy.1 Real.zero_lt_one) (ih hy.2)
  | case2 => exact Real.zero_lt_one

/-- the generalised degrees of divergence along the sector are those of the table -/
def Consistent (halfD dod : ℝ) : List ℝ → List StepData → Prop
  | ω :: ωs, s :: ss => ω - ωs.headD 0 = s.nu - halfD * (if s.dL then 1 else 0) - dod * (if s.dS then 1 else 0)
      ∧ Consistent halfD dod ωs ss
  | [], [] => True
  | _, _ => False

/-- Rewriting with this leaves no projection of `⟨ν, dL, dS⟩` behind, not even inside the `Decidable` instances of the two `if`s, where
`simp` does not reduce it and `exact` is slow to see through it. -/
theorem consistent_cons (halfD dod ω : ℝ) (ωs : List ℝ) (ν : ℝ) (dL dS : Bool) (ss : List StepData) :
    Consistent halfD dod (ω :: ωs) (⟨ν, dL, dS⟩ :: ss) ↔
      ω - ωs.headD 0 = ν - halfD * (if dL then 1 else 0) - dod * (if dS then 1 else 0) ∧ Consistent halfD dod ωs ss :=
  Iff.rfl

theorem ite_mul_rpow (b : Bool) {y U : ℝ} (hy : 0 < y) (hU : 0 < U) (t : ℝ) :
    ((if b then y else 1) * U) ^ (-t) = y ^ (-(t * (if b then 1 else 0))) * U ^ (-t) := by
  cases b
  · simp
  · simp only [if_true, mul_one, Real.mul_rpow hy.le hU.le]

theorem abel_tropical (halfD dod : ℝ) : ∀ (ωs : List ℝ) (ss : List StepData) (ys : List ℝ),
    Consistent halfD dod ωs ss → ωs.length = ys.length → (∀ y ∈ ys, 0 < y) →
    abelProd ωs ys = weightProd ss ys * (uTrop ss ys) ^ (-halfD) * (vTrop ss ys) ^ (-dod) := by
  intro ωs ss
  -- the cases of `Consistent`: one more step, both lists empty, lists of different lengths (where it is `False`)
  fun_induction Consistent halfD dod ωs ss with
  | case1 ω ωs s ss ih =>
    intro ys hc hlen hy
    cases ys with
    | nil => exact absurd hlen (Nat.succ_ne_zero _)
    | cons y ys =>
      rw [List.forall_mem_cons] at hy
      have e (a b : ℝ) : y ^ (s.nu - a - b - 1) = y ^ (s.nu - 1) * y ^ (-a) * y ^ (-b) := by
        rw [← Real.rpow_add hy.1, ← Real.rpow_add hy.1]
        congr 1
        ring
      rw [abelProd, weightProd, uTrop, vTrop, ih ys hc.2 (Nat.succ.inj hlen) hy.2, hc.1, e, ite_mul_rpow _ hy.1 (uTrop_pos ss ys hy.2),
        ite_mul_rpow _ hy.1 (vTrop_pos ss ys hy.2)]
      ring
  | case2 => intro ys _ _ _; simp [abelProd, weightProd, uTrop, vTrop]
  | case3 => intro ys hc; exact hc.elim

/-- Borinsky's sector density, up to the factor `Π ω_k` that the probability of the sector cancels -/
theorem dens_tropical (halfD dod : ℝ) (ωs : List ℝ) (ss : List StepData) (ys : List ℝ)
    (hc : Consistent halfD dod ωs ss) (hlen : ωs.length = ys.length) (hy : ∀ y ∈ ys, 0 < y) :
    dens ωs 1 ys = omegaProd ωs * (weightProd ss ys / ((uTrop ss ys) ^ halfD * (vTrop ss ys) ^ dod)) := by
  rw [dens_closed ωs ys 1 hlen Real.zero_lt_one hy, abel_tropical halfD dod ωs ss ys hc hlen hy, Real.one_rpow, mul_one,
    Real.rpow_neg (uTrop_pos ss ys hy).le, Real.rpow_neg (vTrop_pos ss ys hy).le, div_eq_mul_inv, mul_inv,
    mul_assoc (weightProd ss ys)]

theorem prod_one_div (ωs : List ℝ) : (ωs.map fun ω => 1 / ω).prod = ωs.prod⁻¹ := by
  simp only [one_div, List.prod_inv]

/-- the first factor is the probability of the sector (`C04.orderProb_eq` for a complete order, `J = J(G)`): the `ω`'s cancel and the
density is the same in every sector -/
theorem sector_density_times_prob (halfD dod J : ℝ) (ωs : List ℝ) (ss : List StepData) (ys : List ℝ)
    (hω : ∀ ω ∈ ωs, 0 < ω) (hc : Consistent halfD dod ωs ss) (hlen : ωs.length = ys.length) (hy : ∀ y ∈ ys, 0 < y) :
    (ωs.map fun ω => 1 / ω).prod / J * dens ωs 1 ys
      = weightProd ss ys / ((uTrop ss ys) ^ halfD * (vTrop ss ys) ^ dod) / J := by
  rw [dens_tropical halfD dod ωs ss ys hc hlen hy, div_mul_eq_mul_div, ← mul_assoc, prod_one_div, omegaProd,
    inv_mul_cancel₀ (List.prod_pos hω).ne', one_mul]

/-- one sector's share of the expectation of any function of the Feynman parameters: its probability times the integral over the uniform
numbers drawn inside it, as an integral over its region against the common density (`J = I_tr` up to the normalisation constants) -/
theorem sector_expectation (halfD dod J : ℝ) (hJ : 0 < J) (ωs : List ℝ) (ss : List StepData)
    (hω : ∀ ω ∈ ωs, 0 < ω) (hc : Consistent halfD dod ωs ss) (f : List ℝ → ℝ≥0∞) :
    ENNReal.ofReal ((ωs.map fun ω => 1 / ω).prod / J) * chainInt ωs 1 f
      = nested ωs 1 fun ys =>
          ENNReal.ofReal (weightProd ss ys / ((uTrop ss ys) ^ halfD * (vTrop ss ys) ^ dod) / J) * f ys := by
  rw [chain_law ωs hω 1 Real.zero_lt_one f, ← nested_const_mul _ ENNReal.ofReal_ne_top]
  apply nested_congr_pos
  intro ys hlen hpos
  have hP : 0 ≤ (ωs.map fun ω => 1 / ω).prod / J :=
    prod_one_div ωs ▸ div_nonneg (inv_nonneg.mpr (List.prod_pos hω).le) hJ.le
  rw [← mul_assoc, ← ENNReal.ofReal_mul hP, sector_density_times_prob halfD dod J ωs ss ys hω hc hlen.symm hpos]

/-! ### all sectors together -/

/-- the generalised degrees of divergence met along a removal order: `ω(g∖s_1), ω(g∖{s_1,s_2}), …` (the last one is `ω(∅)`) -/
noncomputable def omegasAlong (omega : Mask → ℝ) : Mask → List Nat → List ℝ
  | _, [] => []
  | g, e :: σ => omega (Mask.pop g e) :: omegasAlong omega (Mask.pop g e) σ

theorem orderWeight_eq_prod (omega : Mask → ℝ) : ∀ (σ : List Nat) (g : Mask),
    C04.orderWeight omega g σ = ((omegasAlong omega g σ).map fun ω => 1 / ω).prod := by
  intro σ
  induction σ with
  | nil => intro g; rfl
  | cons e σ ih => intro g; simp only [C04.orderWeight, omegasAlong, List.map_cons, List.prod_cons, ih]

/-- the `ω`'s that enter the sampler's powers: all but the last (`ω(∅) = 1` is never used as an exponent) -/
noncomputable def sectorOmegas (omega : Mask → ℝ) (g : Mask) (σ : List Nat) : List ℝ := (omegasAlong omega g σ).dropLast

theorem prod_dropLast_of_last_one (l : List ℝ) (hlast : ∀ h : l ≠ [], l.getLast h = 1) :
    (l.map fun ω => 1 / ω).prod = (l.dropLast.map fun ω => 1 / ω).prod := by
  by_cases h : l = []
  · rw [h]
    rfl
  · conv_lhs => rw [← List.dropLast_append_getLast h, hlast h]
    simp

/-- All `E!` sectors of an accepted table (`J ≠ 0`, `ω(∅) = 1`, the `ω`'s along every complete removal order positive and consistent): the
expectation of ANY family `f σ` over the sampler's edge choices (`C04.orderProb`) and uniform numbers is the sum over the sectors of the
integrals of `f σ` over the sector's region against ONE density. -/
theorem tropical_sampling (omega : Mask → ℝ) (n : Nat) (hJ : ∀ h, h < 2 ^ n → Jval omega n h ≠ 0)
    (g : Mask) (hg : g < 2 ^ n) (hJg : 0 < Jval omega n g) (halfD dod : ℝ)
    (ss : List Nat → List StepData) (f : List Nat → List ℝ → ℝ≥0∞)
    (hlast : ∀ σ ∈ C04.orderingsAux (card n g) (Mask.edges n g), ∀ h : omegasAlong omega g σ ≠ [],
      (omegasAlong omega g σ).getLast h = 1)
    (hpos : ∀ σ ∈ C04.orderingsAux (card n g) (Mask.edges n g), ∀ ω ∈ sectorOmegas omega g σ, 0 < ω)
    (hcons : ∀ σ ∈ C04.orderingsAux (card n g) (Mask.edges n g), Consistent halfD dod (sectorOmegas omega g σ) (ss σ)) :
    ((C04.orderingsAux (card n g) (Mask.edges n g)).map fun σ =>
        ENNReal.ofReal (C04.orderProb omega n g σ) * chainInt (sectorOmegas omega g σ) 1 (f σ)).sum
      = ((C04.orderingsAux (card n g) (Mask.edges n g)).map fun σ =>
          nested (sectorOmegas omega g σ) 1 fun ys =>
            ENNReal.ofReal (weightProd (ss σ) ys / ((uTrop (ss σ) ys) ^ halfD * (vTrop (ss σ) ys) ^ dod) / Jval omega n g) * f σ ys).sum := by
  refine congrArg List.sum (List.map_congr_left fun σ hσ => ?_)
  rw [C04.orderProb_complete omega n hJ g hg σ hσ, orderWeight_eq_prod, prod_dropLast_of_last_one _ (hlast σ hσ)]
  exact sector_expectation halfD dod (Jval omega n g) hJg (sectorOmegas omega g σ) (ss σ) (hpos σ hσ) (hcons σ hσ) (f σ)

/-- non-vacuity: the massless bubble in `D = 3` with weights `(1, 3/4)` (`dod = 1/4`): one step, `ω_1 = ω({s_2}) = ν_2 − dod = 1/2` (the
single edge is momentum spanning and has no loop); removing it loses spanning and no loop -/
example : Consistent (3/2) (1/4) [1/2] [⟨3/4, false, true⟩] := by
  refine ⟨?_, trivial⟩
  simp only [List.headD_nil, Bool.false_eq_true, if_false, if_true]
  norm_num

end Momtrop.C01
