import Momtrop.Props.C13BM
import Mathlib.Probability.Distributions.Gaussian.Real
/-!
# C13, the joint law: "each component is standard normal and components are independent"

`C13.boxMuller_law`, an identity of integrals for ONE coordinate pair, becomes a statement about measures (`map_bm`,
`gaussPair_eq_prod`: `N(0,1) ⊗ N(0,1)` for Mathlib's `gaussianReal 0 1`), is lifted to `n` pairs read from `2n` DIFFERENT coordinates
(`joint_law`) and brought into the model's numbering of the `D·L` components (`map_sel`, `components_iid`; an odd `D·L` with its discarded
last sine).
-/
open MeasureTheory Set ProbabilityTheory
open scoped ENNReal

namespace Momtrop.C13

def sq : Set (ℝ × ℝ) := Ioo (0:ℝ) 1 ×ˢ Ioo (0:ℝ) 1

noncomputable def gaussPair : Measure (ℝ × ℝ) := volume.withDensity fun z => ENNReal.ofReal (gauss2 z)

/-- Box–Muller as an identity of measures -/
theorem map_bm : Measure.map bm (volume.restrict sq) = gaussPair := by
  refine Measure.ext_of_lintegral _ fun f hf => ?_
  rw [lintegral_map hf bm_meas, gaussPair, lintegral_withDensity_eq_lintegral_mul _ gauss2_meas hf]
  exact (boxMuller_law f hf).trans (lintegral_congr fun z => mul_comm _ _)

theorem gauss2_eq (z : ℝ × ℝ) :
    ENNReal.ofReal (gauss2 z) = gaussianPDF 0 1 z.1 * gaussianPDF 0 1 z.2 := by
  unfold gaussianPDF
  rw [← ENNReal.ofReal_mul (gaussianPDFReal_nonneg 0 1 z.1)]
  unfold gaussianPDFReal gauss2
  congr 1
  simp only [NNReal.coe_one, mul_one, sub_zero]
  rw [mul_mul_mul_comm, ← Real.exp_add, ← mul_inv, Real.mul_self_sqrt (by positivity)]
  congr 2
  rw [neg_add, add_div]

/-- one Box–Muller pair: two independent standard normals -/
theorem gaussPair_eq_prod : gaussPair = (gaussianReal 0 1).prod (gaussianReal 0 1) := by
  -- as in `lintegral_polar_neg`: stated once, the instance search is slow to find it
  have : SigmaFinite (volume : Measure ℝ) := sigmaFinite_of_locallyFinite
  rw [gaussianReal_of_var_ne_zero 0 one_ne_zero,
    prod_withDensity (measurable_gaussianPDF 0 1) (measurable_gaussianPDF 0 1), gaussPair, Measure.volume_eq_prod]
  congr 1
  funext z
  exact gauss2_eq z

instance : IsProbabilityMeasure gaussPair := by
  rw [gaussPair_eq_prod]; infer_instance

/-- `n` Box–Muller pairs read from disjoint coordinate pairs of a uniform point: the `2n` components are independent standard normals -/
theorem joint_law (n : ℕ) :
    Measure.map (fun (p : Fin n → ℝ × ℝ) i => bm (p i)) (volume.restrict (univ.pi fun _ => sq))
      = Measure.pi fun _ : Fin n => (gaussianReal 0 1).prod (gaussianReal 0 1) := by
  have : SigmaFinite (volume : Measure ℝ) := sigmaFinite_of_locallyFinite
  rw [volume_pi, Measure.restrict_pi_pi]
  have hσ : ∀ _ : Fin n, SigmaFinite (Measure.map bm ((volume : Measure (ℝ × ℝ)).restrict sq)) := fun _ => by
    rw [map_bm]; exact IsFiniteMeasure.toSigmaFinite gaussPair
  rw [Measure.pi_map_pi (μ := fun _ : Fin n => (volume : Measure (ℝ × ℝ)).restrict sq) (f := fun _ => bm)
    (hμ := hσ) (fun _ => bm_meas.aemeasurable)]
  simp only [map_bm, gaussPair_eq_prod]

theorem bm_pi_meas (n : ℕ) : Measurable fun (p : Fin n → ℝ × ℝ) i => bm (p i) :=
  measurable_pi_lambda _ fun i => bm_meas.comp (measurable_pi_apply i)

/-- the same as an identity of integrals -/
theorem joint_law_lintegral (n : ℕ) (f : (Fin n → ℝ × ℝ) → ℝ≥0∞) (hf : Measurable f) :
    ∫⁻ p in univ.pi fun _ : Fin n => sq, f (fun i => bm (p i))
      = ∫⁻ z, f z ∂(Measure.pi fun _ : Fin n => (gaussianReal 0 1).prod (gaussianReal 0 1)) := by
  rw [← joint_law n, lintegral_map hf (bm_pi_meas n)]

/-- `D·L` odd: the discarded last sine leaves a standard normal cosine -/
theorem drop_last_sine : Measure.map Prod.fst gaussPair = gaussianReal 0 1 := by
  have : SigmaFinite (gaussianReal 0 1) := IsFiniteMeasure.toSigmaFinite _
  rw [gaussPair_eq_prod, Measure.map_fst_prod]
  simp

/-- the model's own `boxMuller` (what the driver runs, at `α := ℝ`) is `bm` -/
theorem joint_law_model (n : ℕ) :
    Measure.map (fun (p : Fin n → ℝ × ℝ) i => boxMuller (p i).1 (p i).2) (volume.restrict (univ.pi fun _ => sq))
      = Measure.pi fun _ : Fin n => (gaussianReal 0 1).prod (gaussianReal 0 1) := by
  simp only [boxMuller_eq_bm, joint_law]

/-- non-vacuity: the cube has measure one (it carries the uniform law) -/
example : (volume : Measure (Fin 3 → ℝ × ℝ)) (univ.pi fun _ => sq) = 1 := by
  have : SigmaFinite (volume : Measure ℝ) := sigmaFinite_of_locallyFinite
  rw [volume_pi, Measure.pi_pi]
  simp only [sq, Measure.volume_eq_prod, Measure.prod_prod, Real.volume_Ioo, sub_zero, ENNReal.ofReal_one, mul_one,
    Finset.prod_const_one]

/-! ### All `D·L` components at once: independent standard normals, in the model's own numbering -/

/-- component `b` of a pair (`false` = cosine value, `true` = sine value) -/
def pick (w : ℝ × ℝ) (b : Bool) : ℝ := if b then w.2 else w.1

/-- select components of a family of pairs: output index `k` reads component `(g k).2` of pair `(g k).1` -/
def sel {ι κ : Type*} (g : κ → ι × Bool) (z : ι → ℝ × ℝ) : κ → ℝ := fun k => pick (z (g k).1) (g k).2

theorem sel_meas {ι κ : Type*} (g : κ → ι × Bool) : Measurable (sel g) := by
  refine measurable_pi_lambda _ fun k => ?_
  unfold sel pick
  split
  · exact measurable_snd.comp (measurable_pi_apply _)
  · exact measurable_fst.comp (measurable_pi_apply _)

/-- Distinct components (`g` injective: none is read twice) of independent pairs are independent; covers the flattening
`(ℝ²)ⁿ → ℝ²ⁿ` and the marginal that forgets the last sine. -/
theorem map_sel {ι κ : Type*} [Fintype ι] [Fintype κ] [DecidableEq ι] (N : Measure ℝ) [IsProbabilityMeasure N]
    (g : κ → ι × Bool) (hg : Function.Injective g) :
    Measure.map (sel g) (Measure.pi fun _ : ι => N.prod N) = Measure.pi fun _ : κ => N := by
  -- `Measure.pi_eq`, `pi_pi` and `prod_prod` below each ask for this, and the instance search is slow to find it
  have : SigmaFinite N := IsFiniteMeasure.toSigmaFinite N
  symm
  refine Measure.pi_eq fun s hs => ?_
  -- the constraint the box `s` puts on component `p`: `s k` if `p = g k`, none if `p` is not selected
  let C : ι × Bool → Set ℝ := fun p => {x | ∀ k, g k = p → x ∈ s k}
  have hCg : ∀ k, C (g k) = s k := fun k => Set.ext fun x => ⟨fun h => h k rfl, fun h k' hk' => hg hk' ▸ h⟩
  have hCuniv : ∀ p ∉ Set.range g, C p = univ := fun p hp =>
    eq_univ_of_forall fun x k hk => absurd ⟨k, hk⟩ hp
  have hpre : sel g ⁻¹' (univ.pi s) = univ.pi fun i => C (i, false) ×ˢ C (i, true) := by
    ext z
    have hz : (∀ i, z i ∈ C (i, false) ×ˢ C (i, true)) ↔ ∀ p : ι × Bool, pick (z p.1) p.2 ∈ C p := by
      simp only [Prod.forall, Bool.forall_bool, pick, mem_prod, Bool.false_eq_true, if_false, if_true]
    rw [mem_preimage, mem_univ_pi, mem_univ_pi, hz]
    exact ⟨fun h p k hk => hk ▸ h k, fun h k => h (g k) k rfl⟩
  -- the factors of the components that are not selected are `N univ = 1`
  rw [Measure.map_apply (sel_meas g) (MeasurableSet.univ_pi hs), hpre, Measure.pi_pi,
    Fintype.prod_of_injective g hg (fun k => N (s k)) (fun p => N (C p))
      (fun p hp => by rw [hCuniv p hp, measure_univ]) (fun k => by rw [hCg]),
    Fintype.prod_prod_type]
  refine Finset.prod_congr rfl fun i _ => ?_
  rw [Measure.prod_prod, Fintype.prod_bool, mul_comm]

/-- the model's numbering: Gaussian number `j` is component `j % 2` of pair `j / 2` (`gaussianAt`) -/
def numbering (n m : ℕ) (h : m ≤ 2 * n) (j : Fin m) : Fin n × Bool :=
  (⟨j.val / 2, by have := j.isLt; omega⟩, decide (j.val % 2 = 1))

theorem numbering_inj (n m : ℕ) (h : m ≤ 2 * n) : Function.Injective (numbering n m h) := by
  intro a b hab
  simp only [numbering, Prod.mk.injEq, Fin.mk.injEq, decide_eq_decide] at hab
  apply Fin.ext
  rw [← Nat.div_add_mod a.1 2, ← Nat.div_add_mod b.1 2, hab.1]
  by_cases ha : a.val % 2 = 1
  · rw [ha, hab.2.mp ha]
  · rw [Nat.mod_two_ne_one.mp ha, Nat.mod_two_ne_one.mp (mt hab.2.mpr ha)]

/-- The "hence" clause, every `D·L`: the first `m ≤ 2n` Gaussian numbers from `n` coordinate pairs (`m = D·L`, `n = ⌈D·L/2⌉`; for odd
`D·L` the last sine is not among them) are iid `N(0,1)` when the `2n` coordinates are independent and uniform on `(0,1)`. -/
theorem components_iid (n m : ℕ) (h : m ≤ 2 * n) :
    Measure.map (fun (p : Fin n → ℝ × ℝ) (j : Fin m) => pick (bm (p (numbering n m h j).1)) (numbering n m h j).2)
        (volume.restrict (univ.pi fun _ => sq))
      = Measure.pi fun _ : Fin m => gaussianReal 0 1 := by
  have hcomp : (fun (p : Fin n → ℝ × ℝ) (j : Fin m) => pick (bm (p (numbering n m h j).1)) (numbering n m h j).2)
      = sel (numbering n m h) ∘ fun p i => bm (p i) := rfl
  rw [hcomp, ← Measure.map_map (sel_meas _) (bm_pi_meas n), joint_law, map_sel _ _ (numbering_inj n m h)]

/-- on a coordinate list whose entries `2i`, `2i+1` (after `base`) are the pair `p i`, the model's `gaussianAt` returns the component
used in `components_iid` -/
theorem gaussianAt_of_pairs (n m : ℕ) (h : m ≤ 2 * n) (p : Fin n → ℝ × ℝ) (xs : List ℝ) (base : ℕ)
    (hx : ∀ i : Fin n, xs[base + 2 * i.val]? = some (p i).1 ∧ xs[base + 2 * i.val + 1]? = some (p i).2) (j : Fin m) :
    gaussianAt xs base j.val = some (pick (bm (p (numbering n m h j).1)) (numbering n m h j).2) := by
  have hi := hx (numbering n m h j).1
  rw [gaussianAt_def xs base j.val _ _ hi.1 hi.2, boxMuller_eq_bm]
  rcases Nat.mod_two_eq_zero_or_one j.val with hj | hj <;>
    simp only [pick, numbering, hj, zero_ne_one, one_ne_zero, decide_false, decide_true, Bool.false_eq_true, reduceIte]

/-- non-vacuity of `components_iid` for `D = 3`, `L = 1` (three numbers from two pairs) -/
example : numbering 2 3 (by norm_num) ⟨2, by norm_num⟩ = (⟨1, by norm_num⟩, false) := by decide

end Momtrop.C13
