import Momtrop.Proofs.Spanning
import Momtrop.Model.Table
/-!
# C03 — the subgraph table holds loop number, spanning flag and degree of divergence

Law-free, for every multigraph: any number of edges, self-loops, parallel edges, arbitrary vertex labels and externals.
-/
section
set_option linter.unusedSectionVars false
set_option linter.unusedVariables false

namespace Momtrop.C03
open Scalar

variable {α : Type} [Scalar α]
-- for abstract `α` the only `Sub α`, `Mul α`, `Div α` are those of `Scalar α`; found first here, they spare the search through all that Mathlib derives them from
attribute [local instance 1100] Scalar.toSub Scalar.toMul Scalar.toDiv

/-- the fields `from_graph` fills (`preprocessing.rs:21-61`) -/
theorem fromGraph_fields (G : InGraph α) (D : Nat) :
    (fromGraph G D).topology = G.edges ∧ (fromGraph G D).externals = G.externals ∧
    (fromGraph G D).numMassive = (G.edges.filter (·.massive)).length ∧
    (fromGraph G D).numLoops = loopNumber G.edges (List.range G.edges.length) ∧
    (fromGraph G D).dod = weightSum G.edges (List.range G.edges.length)
        - (ofInt (loopNumber G.edges (List.range G.edges.length)) * ofInt D) / ofInt 2 :=
  ⟨rfl, rfl, rfl, rfl, rfl⟩

/-- `generalized_dod` of the empty subgraph is `1` -/
theorem genDod_empty (G : TGraph α) (D : Nat) : (preEntry G D 0).2.2 = one := rfl

/-- `generalized_dod` of a non-empty subgraph: `Σ w − L·D/2`, minus the graph's `dod` iff it is mass-momentum spanning -/
theorem genDod_nonempty (G : TGraph α) (D : Nat) (s : Mask) (hs : s ≠ 0) :
    let es := Mask.edges G.topology.length s
    (preEntry G D s).2.2 =
      if isMMSpanning G.topology G.numMassive G.externals es
      then weightSum G.topology es - ofInt (loopNumber G.topology es) * ofInt D / ofInt 2 - G.dod
      else weightSum G.topology es - ofInt (loopNumber G.topology es) * ofInt D / ofInt 2 := by
  have : Mask.isEmpty s = false := beq_false_of_ne hs
  simp only [preEntry, this, Bool.not_false, if_true]

/-- the stored `loop_number` and `mass_momentum_spanning` are those of the subgraph's edge list -/
theorem preEntry_flags (G : TGraph α) (D : Nat) (s : Mask) :
    (preEntry G D s).2.1 = loopNumber G.topology (Mask.edges G.topology.length s) ∧
    (preEntry G D s).1 = isMMSpanning G.topology G.numMassive G.externals (Mask.edges G.topology.length s) := by
  simp only [preEntry, and_self]

/-- `get_num_variables` (`get_dimension` of the sampler) -/
theorem numVariables_eq (T : Table α) :
    numVariables T = 2 * T.graph.topology.length - 1
      + loopNumber T.graph.topology (List.range T.graph.topology.length) * T.dimension
      + (loopNumber T.graph.topology (List.range T.graph.topology.length) * T.dimension) % 2 := rfl

/-- `is_mass_momentum_spanning`: `nm` massive edges - all, when `nm` is the graph's count (`mass_spanning_iff`) - and one component
that touches every external vertex -/
theorem spanning_iff (top : List (TEdge α)) (nm : Nat) (ext s : List Nat) :
    isMMSpanning top nm ext s = true ↔
      (s.filter (isMassive top)).length = nm ∧
      ∃ c ∈ components top s, ∀ v ∈ ext, ∃ i ∈ Mask.edges top.length c, containsVertex top i v = true :=
  isMMSpanning_iff top nm ext s

theorem spanning_nil (top : List (TEdge α)) (nm : Nat) (ext : List Nat) :
    isMMSpanning top nm ext [] = false := by
  simp [isMMSpanning, components, componentLists_nil]

theorem loopNumber_nil (top : List (TEdge α)) : loopNumber top [] = 0 :=
  Momtrop.loopNumber_nil top

/-- one search of `get_connected_components` (`preprocessing.rs:104-133`) finds exactly the edges chained to its seed -/
theorem component_search_exact (top : List (TEdge α)) (s : List Nat) (hs : s.Nodup) (seed : Nat)
    (hseed : seed ∈ s) (f : Nat) :
    f ∈ closure top s (s.length + 1) [seed] ↔ EdgeConn top s seed f :=
  closure_eq_conn top s hs seed hseed f

/-- the search starts in the first edge -/
theorem first_component (top : List (TEdge α)) (e : Nat) (es : List Nat) (hs : (e :: es).Nodup) :
    (componentLists top (e :: es)).head? = some (closure top (e :: es) ((e :: es).length + 1) [e]) :=
  rfl

/-- `get_connected_components` returns the connectivity classes of `s`, each once -/
theorem components_are_classes (top : List (TEdge α)) (s : List Nat) (hs : s.Nodup) :
    (∀ c ∈ componentLists top s, ∃ seed ∈ s, ∀ f, f ∈ c ↔ EdgeConn top s seed f) ∧
    List.Pairwise (fun c1 c2 : List Nat => ∀ e, e ∈ c1 → e ∉ c2) (componentLists top s) ∧
    (∀ e ∈ s, ∃ c ∈ componentLists top s, e ∈ c) :=
  componentLists_spec top s hs

theorem same_component_iff (top : List (TEdge α)) (s : List Nat) (hs : s.Nodup) (e f : Nat) (he : e ∈ s) :
    (∃ c ∈ componentLists top s, e ∈ c ∧ f ∈ c) ↔ EdgeConn top s e f :=
  Momtrop.same_component_iff top s hs e f he

/-- the returned `TropicalSubGraphId`s have exactly the bits of the component's edges -/
theorem component_mask_bits (c : List Nat) (e : Nat) : Mask.hasEdge (Mask.ofList c) e = decide (e ∈ c) :=
  Mask.hasEdge_ofList c e

/-- `get_loop_number` is the cyclomatic number, also with self-loops, parallel edges and several components -/
theorem loopNumber_is_cyclomatic (top : List (TEdge α)) (s : List Nat) (hs : s.Nodup)
    (hvalid : ∀ e ∈ s, e < top.length) :
    loopNumber top s + (verts top s).card = s.length + (componentLists top s).length :=
  loopNumber_cyclomatic top s hs hvalid

/-- the hypotheses `s.Nodup`, `hvalid` above hold for every table entry -/
theorem subset_edges_ok (top : List (TEdge α)) (i : Mask) :
    (Mask.edges top.length i).Nodup ∧ ∀ e ∈ Mask.edges top.length i, e < top.length :=
  ⟨Mask.edges_nodup _ _, fun _ he => (Mask.mem_edges.mp he).1⟩

end Momtrop.C03
end
