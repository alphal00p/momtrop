import Momtrop.Proofs.Kinematics
import Momtrop.Props.C15
/-!
# C08 — the `L` matrix and `u = det L`; independence of cycle basis and edge orientation

`S`: the metadata `L` matrix is symmetric bit for bit, for every scalar type. `R`: its entries, the returned `u` is `det L`, and `det L` does
not change under a unimodular change of cycle basis or edge re-orientations, for every number of loops and edges. The identification
`det L = Σ_T Π_{e∉T} x_e` (matrix-tree theorem in its cycle-space form) is classical and not formalised (Mathlib has no Cauchy–Binet);
the spanning-tree oracle decides it on the implementation, for each supplied basis.
-/
namespace Momtrop.C08
open Scalar Matrix

section S
variable {α : Type} [Scalar α]

/-- the same value, not merely close: both triangles receive the same additions in the same order -/
theorem lMatrix_symm (x : List α) (S : List (List Int)) {i j : Nat}
    (hi : i < (S.getD 0 []).length) (hj : j < (S.getD 0 []).length) :
    (((lMatrix x S).getD i []).getD j zero) = (((lMatrix x S).getD j []).getD i zero) := by
  show (lMatrix x S).get i j = (lMatrix x S).get j i
  rw [lMatrix, Mat.ofFn_get _ _ hi hj, Mat.ofFn_get _ _ hj hi]
  rcases Nat.lt_trichotomy i j with h | rfl | h
  · rw [if_pos h.le, if_neg (Nat.not_le.mpr h)]
  · rfl
  · rw [if_neg (Nat.not_le.mpr h), if_pos h.le]

end S

section R
variable (x : List ℝ) (S : List (List Int))

theorem lMatrix_entry {i j : Nat} (hi : i < (S.getD 0 []).length) (hj : j < (S.getD 0 []).length) :
    (lMatrix x S).get i j = ∑ e ∈ Finset.range S.length, x.getD e 0 * (sigGet S e i : ℝ) * (sigGet S e j : ℝ) := by
  have upper : ∀ i j : Nat,
      sumFrom (Scalar.zero : ℝ)
          ((List.range S.length).map fun e => ofInt (sigGet S e i * sigGet S e j) * x.getD e Scalar.zero)
        = ∑ e ∈ Finset.range S.length, x.getD e 0 * (sigGet S e i : ℝ) * (sigGet S e j : ℝ) := by
    intro i j
    rw [sumFrom_range]
    refine Finset.sum_congr rfl fun e _ => ?_
    rw [ofInt_real, Int.cast_mul, zero_real, mul_comm, mul_assoc]
  rw [lMatrix, Mat.ofFn_get _ _ hi hj]
  by_cases h : i ≤ j
  · exact (if_pos h).trans (upper i j)
  · exact (if_neg h).trans ((upper j i).trans (Finset.sum_congr rfl fun e _ => mul_right_comm _ _ _))

theorem M_lMatrix : M (S.getD 0 []).length (lMatrix x S) = lMat (Sm S) (xv x S) := by
  ext i j
  rw [M_apply, lMatrix_entry x S i.2 j.2, lMat_apply, Finset.sum_range]
  rfl

theorem lMatrix_symmOn : SymmOn (lMatrix x S) (S.getD 0 []).length :=
  fun _ _ hi hj => lMatrix_symm x S hi hj

/-- the `u` of a sample, i.e. the determinant the matrix routine returns for the sample's `L` matrix -/
theorem u_eq_det (hp : PivotsPos (lMatrix x S) (S.getD 0 []).length) :
    (C15.result (lMatrix x S) (S.getD 0 []).length).determinant = (lMat (Sm S) (xv x S)).det := by
  rw [C15.determinant_correct _ _ hp (lMatrix_symmOn x S), M_lMatrix]

variable {E L : ℕ}

theorem lMat_basis_change (Sg : Matrix (Fin E) (Fin L) ℝ) (xs : Fin E → ℝ) (P : Matrix (Fin L) (Fin L) ℝ) :
    lMat (Sg * P) xs = Pᵀ * lMat Sg xs * P := by
  simp only [lMat, transpose_mul, Matrix.mul_assoc]

theorem lMat_orientation (Sg : Matrix (Fin E) (Fin L) ℝ) (xs : Fin E → ℝ) (ε : Fin E → ℝ)
    (hε : ∀ e, ε e * ε e = 1) : lMat (diagonal ε * Sg) xs = lMat Sg xs := by
  ext i j
  rw [lMat_apply, lMat_apply]
  refine Finset.sum_congr rfl fun e _ => ?_
  rw [diagonal_mul, diagonal_mul, mul_assoc, mul_mul_mul_comm, hε e, one_mul, mul_assoc]

/-- `U = det L` depends neither on the cycle basis (`det P = ±1`: every integer change of basis) nor on the edge orientations (`ε_e = ±1`) -/
theorem det_basis_change (Sg : Matrix (Fin E) (Fin L) ℝ) (xs : Fin E → ℝ) (P : Matrix (Fin L) (Fin L) ℝ)
    (ε : Fin E → ℝ) (hε : ∀ e, ε e * ε e = 1) (hP : P.det * P.det = 1) :
    (lMat (diagonal ε * Sg * P) xs).det = (lMat Sg xs).det := by
  rw [lMat_basis_change, lMat_orientation Sg xs ε hε, det_mul, det_mul, det_transpose, mul_right_comm, hP, one_mul]

/-- an integer matrix with determinant `±1` satisfies `hP` of `det_basis_change` -/
theorem unimodular_sq (P : Matrix (Fin L) (Fin L) ℤ) (h : P.det = 1 ∨ P.det = -1) :
    (P.map (Int.cast : ℤ → ℝ)).det * (P.map (Int.cast : ℤ → ℝ)).det = 1 := by
  rw [← Int.cast_det, ← Int.cast_mul]
  rcases h with h | h
  · rw [h]; norm_num
  · rw [h]; norm_num

end R
end Momtrop.C08
