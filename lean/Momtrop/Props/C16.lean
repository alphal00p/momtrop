import Momtrop.Proofs.SampleInv
import Momtrop.Proofs.Access
import Momtrop.Proofs.DecomposeLemmas
/-!
# C16 — matrix failures are reported

For every `Scalar α`, hence for IEEE `f64` (through the `Float` instance the correspondence check ties to the code), including NaN,
underflow and infinities. Core Lean only. The theorems describe the code after the two `fix:` commits (`9f39851`, `641a06a`).
-/
namespace Momtrop.C16
open Scalar

section
variable {α : Type} [Scalar α]

/-- never `Ok` with a zero determinant: neither `det_q` nor `det_q²` (the second test, against underflow) compares equal to zero -/
theorem ok_det_nonzero (n : Nat) (A : Mat α) (tol : Option α) (r : Decomp α)
    (h : decompose n A tol = .ok r) :
    beq (detQ n (cholQ A n)) (zero : α) = false ∧ beq r.determinant (zero : α) = false := by
  obtain ⟨hz, rfl, -⟩ := (decompose_ok_iff n A tol r).mp h
  exact Bool.or_eq_false_iff.mp hz

/-- a zero pivot product is `ZeroDet`, whatever the tolerance -/
theorem zeroDet_of_pivot_product_zero (n : Nat) (A : Mat α) (tol : Option α)
    (h : beq (detQ n (cholQ A n)) (zero : α) = true) : decompose n A tol = .error .zeroDet := by
  rw [decompose_eq, h, Bool.true_or, if_pos rfl]

/-- so is an underflow of `det_q²` -/
theorem zeroDet_of_det_zero (n : Nat) (A : Mat α) (tol : Option α)
    (h : beq (detQ n (cholQ A n) * detQ n (cholQ A n)) (zero : α) = true) :
    decompose n A tol = .error .zeroDet := by
  rw [decompose_eq, h, Bool.or_true, if_pos rfl]

/-- the stability test is sound: `Ok` means `residual ≤ t` as the scalar type's own comparison evaluates it; `NaN ≤ t` is false for IEEE
numbers, so an `Ok` result never has a NaN residual -/
theorem ok_stable (n : Nat) (A : Mat α) (t : α) (r : Decomp α)
    (h : decompose n A (some t) = .ok r) : leB (residual n A r) t = true := by
  obtain ⟨-, rfl, hle⟩ := (decompose_ok_iff n A (some t) r).mp h
  exact hle t rfl

/-- the test can only turn `Ok` into `Unstable`: the record does not depend on the tolerance -/
theorem ok_same_without_test (n : Nat) (A : Mat α) (t : α) (r : Decomp α)
    (h : decompose n A (some t) = .ok r) : decompose n A none = .ok r :=
  have ⟨hz, hr, _⟩ := (decompose_ok_iff n A (some t) r).mp h
  (decompose_ok_iff n A none r).mpr ⟨hz, hr, fun _ ht => nomatch ht⟩

/-- when the matrix routine fails on the `L` matrix of a sample, `sample` returns that `MatrixError` (and reads no further coordinate) -/
theorem sample_reports_matrix_error (draw : α → α → Option α) (T : STable α) (D : Nat) (xs : List α)
    (S : List (List Int)) (ed : List (Option α × Vec α)) (st : Settings α) (pr : PermResult α)
    (e : MatErr) (hx : xs.isEmpty = false) (hp : permutahedral T xs = some pr)
    (hd : decompose (S.getD 0 []).length (lMatrix pr.x S) st.stability = .error e) :
    sampleCore draw T D xs S ed st = some (.error (.matrix e)) := by
  unfold sampleCore
  simp only [hx, hp, hd, Bool.false_eq_true, if_false]

/-- and an `Ok` sample with the stability test on satisfies the residual bound for its own `L` matrix -/
theorem sample_ok_stable (draw : α → α → Option α) (T : STable α) (D : Nat) (xs : List α)
    (S : List (List Int)) (ed : List (Option α × Vec α)) (st : Settings α) (t : α) (res : SampleResult α)
    (ht : st.stability = some t)
    (h : sampleCore draw T D xs S ed st = some (.ok res)) :
    ∃ pr dec, permutahedral T xs = some pr ∧
      decompose (S.getD 0 []).length (lMatrix pr.x S) (some t) = .ok dec ∧ res.u = dec.determinant ∧
      leB (residual (S.getD 0 []).length (lMatrix pr.x S) dec) t = true := by
  obtain ⟨pr, dec, _, _, _, hpr, hdec, -, -, -, rfl⟩ := (sampleCore_ok_iff ..).mp h
  rw [ht] at hdec
  exact ⟨pr, dec, hpr, hdec, rfl, ok_stable _ _ t dec hdec⟩

end

/-!
## NaN clause: with the stability test on, an `Ok` decomposition contains no NaN in its inverse

`NaNLaws` is a hypothesis about the scalar type: the IEEE-754 behaviour of NaN that the argument needs. `Float`/`f64` satisfy it by the
standard (assumed, part of the trusted base); `instNaNLawsOption` shows the laws consistent (`Option`-lifted arithmetic, `none` as NaN).
-/

/-- IEEE-like NaN behaviour -/
class NaNLaws (α : Type) [Scalar α] where
  isNaN : α → Prop
  add_left : ∀ a b : α, isNaN a → isNaN (a + b)
  add_right : ∀ a b : α, isNaN b → isNaN (a + b)
  sub_left : ∀ a b : α, isNaN a → isNaN (a - b)
  mul_left : ∀ a b : α, isNaN a → isNaN (a * b)
  sqrt_nan : ∀ a : α, isNaN a → isNaN (sqrt a)
  not_le : ∀ a t : α, isNaN a → ¬ (a ≤ t)

variable {α : Type} [Scalar α] [NaNLaws α]
open NaNLaws

/-- once an accumulation has seen a NaN term it is NaN -/
theorem foldl_add_nan (l : List α) (acc : α) (h : isNaN acc ∨ ∃ x ∈ l, isNaN x) :
    isNaN (l.foldl (· + ·) acc) := by
  induction l generalizing acc with
  | nil => exact h.resolve_right fun ⟨_, hx, _⟩ => List.not_mem_nil hx
  | cons y ys ih =>
    refine ih _ ?_
    rcases h with h | ⟨x, hx, hn⟩
    · exact Or.inl (add_left acc y h)
    · rcases List.mem_cons.mp hx with rfl | hx'
      · exact Or.inl (add_right acc x hn)
      · exact Or.inr ⟨x, hx', hn⟩

theorem sumFrom_range_nan (init : α) (f : Nat → α) {n k : Nat} (hk : k < n) (h : isNaN (f k)) :
    isNaN (sumFrom init ((List.range n).map f)) :=
  foldl_add_nan _ init (Or.inr ⟨f k, List.mem_map.mpr ⟨k, List.mem_range.mpr hk, rfl⟩, h⟩)

/-- no NaN entry of `inverse` is returned as `Ok` when the stability test is on: it would reach the residual, and `NaN ≤ tol` is false -/
theorem ok_no_nan (n : Nat) (A : Mat α) (t : α) (r : Decomp α) (h : decompose n A (some t) = .ok r)
    {i j : Nat} (hi : i < n) (hj : j < n) : ¬ isNaN (r.inverse.get i j) := by
  intro hnan
  have hc : 0 < n := Nat.zero_lt_of_lt hi
  -- entry (i, 0) of `inverse · A`, hence of the residual matrix, is NaN
  have h1 : isNaN ((Mat.sub n (Mat.mul n r.inverse A) (Mat.identity n)).get i 0) := by
    rw [Mat.sub, Mat.ofFn_get n _ hi hc, Mat.mul, Mat.ofFn_get n _ hi hc]
    exact sub_left _ _ (sumFrom_range_nan _ _ hj (mul_left _ _ hnan))
  -- so the norm of column 0 is NaN, and with it the sum over the columns
  have h2 : isNaN (residual n A r) :=
    sumFrom_range_nan _ _ hc (sqrt_nan _ (sumFrom_range_nan _ _ hi (mul_left _ _ h1)))
  exact not_le _ t h2 (of_decide_eq_true (ok_stable n A t r h))

end Momtrop.C16

namespace Momtrop.C16.Consistency

/-- a toy scalar with a NaN: `Option Nat`, every operation strict in `none` -/
def lift2 (f : Nat → Nat → Nat) : Option Nat → Option Nat → Option Nat
  | some a, some b => some (f a b)
  | _, _ => none

/-- a comparison that is false as soon as one side is `none` is decidable -/
def decLift (R : Nat → Nat → Prop) [DecidableRel R] :
    (a b : Option Nat) → Decidable (∃ x y, a = some x ∧ b = some y ∧ R x y)
  | some x, some y => decidable_of_iff (R x y)
      ⟨fun h => ⟨x, y, rfl, rfl, h⟩, fun ⟨_, _, h1, h2, h⟩ => by cases h1; cases h2; exact h⟩
  | none, _ => isFalse fun ⟨_, _, h, _⟩ => nomatch h
  | some _, none => isFalse fun ⟨_, _, _, h, _⟩ => nomatch h

instance : Scalar (Option Nat) where
  add := lift2 (· + ·)
  sub := lift2 (· - ·)
  mul := lift2 (· * ·)
  div := lift2 (· / ·)
  neg := fun a => a
  lt := fun a b => ∃ x y, a = some x ∧ b = some y ∧ x < y
  le := fun a b => ∃ x y, a = some x ∧ b = some y ∧ x ≤ y
  zero := some 0
  one := some 1
  pi := some 3
  sqrt := fun a => a.map Nat.sqrt
  ln := id
  exp := id
  cos := id
  sin := id
  abs := id
  inv := id
  powf := lift2 (· ^ ·)
  ofInt := fun n => some n.toNat
  ofF64 := fun b => some b.toNat
  decLe := decLift (· ≤ ·)
  decLt := decLift (· < ·)
  beq := fun a b => match a, b with
    | some x, some y => x == y
    | _, _ => false

/-- the laws are satisfiable: `none` behaves like NaN -/
instance instNaNLawsOption : NaNLaws (Option Nat) where
  isNaN := fun a => a = none
  add_left := by intro a b h; subst h; rfl
  add_right := by intro a b h; subst h; cases a <;> rfl
  sub_left := by intro a b h; subst h; rfl
  mul_left := by intro a b h; subst h; rfl
  sqrt_nan := by intro a h; subst h; rfl
  not_le := by intro a t h; subst h; rintro ⟨x, y, h1, _⟩; cases h1

/-- non-vacuity of `ok_no_nan`: the theorem applies to this scalar type -/
example (n : Nat) (A : Mat (Option Nat)) (t : Option Nat) (r : Decomp (Option Nat))
    (h : decompose n A (some t) = .ok r) {i j : Nat} (hi : i < n) (hj : j < n) :
    r.inverse.get i j ≠ none := ok_no_nan n A t r h hi hj

end Momtrop.C16.Consistency
