import Momtrop.Proofs.TableLemmas
/-!
# C05 — `build_sampler` rejects exactly the graphs with a divergent proper subgraph

Law-free (`S`) theorems about `generateTable` (model of `generate_from_tropical`), stated with the scalar's own `≤`: for `Float`
they speak of the *computed* generalised degrees of divergence (the property's 1e-9 exclusion band is their rounding band), at
`α := ℝ` they are the property's "if and only if" in exact arithmetic. Core Lean only.
-/

namespace Momtrop.C05
open Scalar
variable {α : Type} [Scalar α]

/-- generalised degree of divergence of subset `s` as the build computes it -/
def genDod (G : TGraph α) (D : Nat) (s : Mask) : α := (preEntry G D s).2.2

theorem isBad_iff (G : TGraph α) (D : Nat) (s : Mask) :
    isBad G D s = true ↔
      leB (genDod G D s) (zero : α) = true ∧ s ≠ 0 ∧ s ≠ Mask.full G.topology.length := by
  unfold isBad genDod Mask.isEmpty
  simp only [Bool.and_eq_true, Bool.not_eq_eq_eq_not, Bool.not_true, beq_eq_false_iff_ne, ne_eq, and_assoc]

/-- `Err` exactly if one of the `2^E` subset ids is a divergent proper subgraph -/
theorem build_err_iff (Γ : α → α) (G : TGraph α) (D : Nat) :
    (∃ i, generateTable Γ G D = .error i) ↔ ∃ s, s < 2 ^ G.topology.length ∧ isBad G D s = true := by
  simp only [generateTable_error_iff, ← Option.isSome_iff_exists, List.find?_isSome, List.mem_range]

/-- the reported subgraph is the first divergent one in id order -/
theorem build_err_first (Γ : α → α) (G : TGraph α) (D : Nat) (i : Mask)
    (h : generateTable Γ G D = .error i) :
    isBad G D i = true ∧ i < 2 ^ G.topology.length ∧ ∀ s, s < i → isBad G D s = false := by
  have := List.find?_range_eq_some.mp ((generateTable_error_iff Γ G D i).mp h)
  exact ⟨this.1, List.mem_range.mp this.2.1, fun s hs => by simpa using this.2.2 s hs⟩

theorem build_ok (Γ : α → α) (G : TGraph α) (D : Nat) (T : Table α) (h : generateTable Γ G D = .ok T) :
    T.entries.length = 2 ^ G.topology.length ∧ T.dimension = D ∧ T.graph = G ∧
    (∀ s, s < 2 ^ G.topology.length → isBad G D s = false) ∧
    (∀ s, s < 2 ^ G.topology.length → ∃ e, T.entries[s]? = some e ∧
        e.loopNumber = (preEntry G D s).2.1 ∧ e.mms = (preEntry G D s).1 ∧ e.dod = genDod G D s) := by
  obtain ⟨hf, hD, hG, hlen, hent⟩ := generateTable_ok Γ G D T h
  refine ⟨hlen, hD, hG, fun s hs => ?_, fun s hs => ?_⟩
  · simpa using List.find?_range_eq_none.mp hf s hs
  · obtain ⟨e, he, h1, h2, h3, _⟩ := hent s hs
    exact ⟨e, he, h1, h2, h3⟩

/-- the model of the build is a function of the graph alone (no state, no hash order, no randomness): this holds by `rfl` -/
theorem build_deterministic (Γ : α → α) (G : InGraph α) (D : Nat) :
    buildTable Γ G D = buildTable Γ G D := rfl

end Momtrop.C05
