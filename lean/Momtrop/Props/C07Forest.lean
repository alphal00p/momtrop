import Momtrop.Props.C07Major
/-!
# The momentum terms of `F` are at most `u_trop · v_trop`

A momentum term of `F` is `∏_{e∈C'} x_e` for the complement `C'` of a spanning 2-forest whose two trees separate the external vertices (for
generic external momenta exactly those have a non-zero coefficient): `loops(S ∖ C') = 0`, `|C'| = loops(S) + 1`, `Split` of `S ∖ C'`.
Such a `C'` lies in the `F`-polytope, `|C' ∩ γ| ≥ loops(γ) + [γ spanning]` for every subgraph `γ` (`split_inter_ge`), so the greedy vertex
`u_trop · v_trop` dominates its monomial (`momentum_term_le`). With `mass_term_le` this bounds EVERY monomial of `F`.
-/
namespace Momtrop.C07

section momentum
variable {α : Type}

/-- two external vertices are not joined inside `B` -/
def Split (top : List (TEdge α)) (ext : List ℕ) (B : Finset ℕ) : Prop :=
  ∃ v ∈ ext, ∃ w ∈ ext, ¬ VConn top B.toList v w

theorem loopsOf_insert_iff (top : List (TEdge α)) (B : Finset ℕ) (hB : ∀ x ∈ B, x < top.length) (f : ℕ) (hf : f < top.length)
    (hfB : f ∉ B) : loopsOf top (insert f B) = loopsOf top B + 1 ↔ Cyc top B.toList f := by
  have hmem : ∀ x, x ∈ (B.filter (· < top.length)).sort (· ≤ ·) ↔ x ∈ B.toList := fun x => by
    rw [mem_sort_filter, Finset.mem_toList]
    exact ⟨And.left, fun h => ⟨h, hB x h⟩⟩
  exact (loopNumber_insert_iff (sort_insert_perm top.length B f hf hfB) (Finset.sort_nodup _ _) fun x hx =>
    (mem_sort_filter.mp hx).2).trans ⟨Cyc.mono fun x => (hmem x).mp, Cyc.mono fun x => (hmem x).mpr⟩

/-- an edge that raises the loop number of `B` has its end points joined inside `B` (`f`: a removed edge, `B`: what is left) -/
theorem removed_edge_joined (top : List (TEdge α)) (B : Finset ℕ) (hB : ∀ x ∈ B, x < top.length) (f : ℕ) (hf : f < top.length)
    (hfB : f ∉ B) (hne : loopsOf top (insert f B) ≠ loopsOf top B) :
    ∀ a ∈ endSet top f, ∀ b ∈ endSet top f, VConn top B.toList a b := by
  have hs := (loopsOf_nullity top).step B f hfB
  exact cyc_vconn f ((loopsOf_insert_iff top B hB f hf hfB).mp (le_antisymm hs.2 (Nat.lt_of_le_of_ne hs.1 hne.symm)))

theorem cotree_conn (top : List (TEdge α)) (S C : Finset ℕ) (hS : ∀ e ∈ S, e < top.length) (hC : Cotree (loopsOf top) S C)
    {v w : ℕ} (h : VConn top S.toList v w) : VConn top (S \ C).toList v w := by
  obtain ⟨_, hz, hmax⟩ := (cotree_iff_maximal_forest (loopsOf_nullity top) S C).mp hC
  rcases h with rfl | ⟨h1, hh1, h2, _, hv, hw, hc⟩
  · exact Or.inl rfl
  refine conn_transfer (fun f hf p hp q hq => ?_) hh1 hc v hv w hw
  rw [Finset.mem_toList] at hf
  by_cases hfC : f ∈ C
  · -- an edge of the cotree closes a cycle with the forest, so its end points are joined inside the forest
    exact removed_edge_joined top (S \ C) (fun y hy => hS y (Finset.mem_sdiff.mp hy).1) f (hS f hf)
      (fun hm => (Finset.mem_sdiff.mp hm).2 hfC) (by rw [hz]; exact hmax f hfC) p hp q hq
  · exact vconn_edge (Finset.mem_toList.mpr (Finset.mem_sdiff.mpr ⟨hf, hfC⟩)) hp hq

theorem split_inter_ge (top : List (TEdge α)) (ext : List ℕ) (mm : Finset ℕ → Bool)
    (hconn : ∀ A, mm A = true → ∀ v ∈ ext, ∀ w ∈ ext, VConn top A.toList v w)
    (S C : Finset ℕ) (hS : ∀ e ∈ S, e < top.length) (hz : loopsOf top (S \ C) = 0) (hsplit : Split top ext (S \ C))
    (A : Finset ℕ) (hA : A ⊆ S) : zF (loopsOf top) mm A ≤ (A ∩ C).card := by
  have hN := loopsOf_nullity top
  have h1 := inter_ge_of_forest hN S C hz A hA
  rw [zF]
  split
  next hmk =>
    -- were `h1` tight on the spanning `A`, `A ∩ C` would be a cotree of `A`: every removed edge would have its end points joined inside `A ∖ C`
    -- (`cotree_conn`), and so would the external vertices, which are joined inside `A`
    refine Nat.lt_of_le_of_ne h1 fun heq => ?_
    have hz' : loopsOf top (A \ C) = 0 := Nat.le_zero.mp (hz ▸ r_mono hN (Finset.sdiff_subset_sdiff hA (le_refl C)))
    have hcot : Cotree (loopsOf top) A (A ∩ C) :=
      ⟨Finset.inter_subset_left, by rw [Finset.sdiff_inter_self_left]; exact hz', heq.symm⟩
    obtain ⟨v, hv, w, hw, hnot⟩ := hsplit
    have := cotree_conn top A (A ∩ C) (fun e he => hS e (hA he)) hcot (hconn A hmk v hv w hw)
    rw [Finset.sdiff_inter_self_left] at this
    refine hnot (this.mono fun y hy => ?_)
    rw [Finset.mem_toList] at hy ⊢
    exact Finset.sdiff_subset_sdiff hA (le_refl C) hy
  next => rwa [Nat.add_zero]

/-- every momentum term of `F` is at most `u_trop · v_trop` -/
theorem momentum_term_le (top : List (TEdge α)) (ext : List ℕ) (mm : Finset ℕ → Bool) (hm : SpanLike mm)
    (hconn : ∀ A, mm A = true → ∀ v ∈ ext, ∀ w ∈ ext, VConn top A.toList v w)
    (x : ℕ → ℝ) (σ : List ℕ) (hσ : σ.Nodup) (hvalid : ∀ e ∈ σ, e < top.length)
    (hpos : ∀ e ∈ σ, 0 < x e) (hsorted : σ.Pairwise fun p q => x q ≤ x p)
    (C : Finset ℕ) (hCS : C ⊆ σ.toFinset) (hz : loopsOf top (σ.toFinset \ C) = 0)
    (hcard : C.card = loopsOf top σ.toFinset + 1) (hsplit : Split top ext (σ.toFinset \ C))
    (hfull : mm σ.toFinset = true) :
    ∏ e ∈ C, x e ≤ tropPow (zF (loopsOf top) mm) x σ :=
  prod_le_tropPow (zF_zero (loopsOf_nullity top) hm) (zF_mono (loopsOf_nullity top) hm) x σ hσ (fun e he => (hpos e he).le) hsorted
    C hCS (split_inter_ge top ext mm hconn σ.toFinset C (fun e he => hvalid e (List.mem_toFinset.mp he)) hz hsplit)
    (by rw [hcard]; unfold zF; rw [if_pos hfull])

end momentum

section flagConn
variable {α : Type} [Scalar α]

/-- in a mass-momentum spanning subgraph any two external vertices are joined: the premise `hconn` of `momentum_terms_le` -/
theorem mmOf_conn (G : TGraph α) (A : Finset ℕ) (hA : mmOf G A = true) :
    ∀ v ∈ G.externals, ∀ w ∈ G.externals, VConn G.topology A.toList v w := by
  unfold mmOf at hA
  rw [C03.spanning_iff] at hA
  intro v hv w hw
  exact (joined_of_component _ _ _ (Finset.sort_nodup _ _) hA.2 v hv w hw).mono fun y hy =>
    Finset.mem_toList.mpr (mem_sort_filter.mp hy).1

end flagConn

end Momtrop.C07
