import Momtrop.Model.Vector
import Momtrop.Proofs.Access
/-!
# C20 — Vector primitives implement their componentwise definitions

For every `Scalar α`, in particular the `Float` instance that the correspondence check ties to Rust's `f64`. Core Lean only.
-/
namespace Momtrop.C20
open Scalar
variable {α : Type} [Scalar α]

theorem getD_map_range (D : Nat) (f : Nat → α) {i : Nat} (h : i < D) :
    ((List.range D).map f).getD i zero = f i :=
  List.getD_map_range D f zero h

theorem add_get (D : Nat) (v w : Vec α) {i : Nat} (h : i < D) :
    (Vec.add D v w).get i = v.get i + w.get i := by
  exact getD_map_range D _ h
theorem add_length (D : Nat) (v w : Vec α) : (Vec.add D v w).length = D := by simp [Vec.add]

theorem sub_get (D : Nat) (v w : Vec α) {i : Nat} (h : i < D) :
    (Vec.sub D v w).get i = v.get i - w.get i := by
  exact getD_map_range D _ h
theorem sub_length (D : Nat) (v w : Vec α) : (Vec.sub D v w).length = D := by simp [Vec.sub]

theorem addAssign_get (D : Nat) (v w : Vec α) {i : Nat} (h : i < D) :
    (Vec.addAssign D v w).get i = v.get i + w.get i := by
  exact getD_map_range D _ h

theorem smul_get (v : Vec α) (s : α) {i : Nat} (h : i < v.length) :
    (Vec.smul v s).get i = v.get i * s := by
  unfold Vec.smul Vec.get
  simp [h]
theorem smul_length (v : Vec α) (s : α) : (Vec.smul v s).length = v.length := by simp [Vec.smul]

theorem zeros_get (D i : Nat) : (Vec.zeros D : Vec α).get i = zero := by
  unfold Vec.zeros Vec.get
  by_cases h : i < D <;> simp [h]
theorem zeros_length (D : Nat) : (Vec.zeros D : Vec α).length = D := by simp [Vec.zeros]

/-- literally the same fold, hence bit-identical for every scalar -/
theorem squared_eq_dot (v : Vec α) : Vec.squared v = Vec.dot v v := by
  unfold Vec.squared Vec.dot
  rw [List.zip, List.zipWith_self, List.foldl_map]

/-- `dot` accumulates from index 0: it first adds `x*y` to zero -/
theorem dot_cons (x y : α) (xs ys : Vec α) :
    Vec.dot (x :: xs) (y :: ys) = (xs.zip ys).foldl (fun acc p => acc + p.1 * p.2) (zero + x * y) :=
  rfl

theorem dot_eq_range_fold (v w : Vec α) (h : v.length = w.length) :
    Vec.dot v w = (List.range v.length).foldl (fun acc i => acc + v.get i * w.get i) zero := by
  unfold Vec.dot
  rw [zip_eq_range v.length v w zero zero rfl h.symm, List.foldl_map]
  rfl

theorem dot_eq_zipWith (v w : Vec α) : Vec.dot v w = sumFrom zero (List.zipWith (· * ·) v w) := by
  unfold Vec.dot sumFrom
  rw [← List.map_uncurry_zip_eq_zipWith, List.foldl_map]
  rfl

/-- for every scalar whose multiplication commutes (true of IEEE `*`) -/
theorem dot_comm (hc : ∀ a b : α, a * b = b * a) (v w : Vec α) : Vec.dot v w = Vec.dot w v := by
  rw [dot_eq_zipWith, dot_eq_zipWith, List.zipWith_comm_of_comm hc]

end Momtrop.C20
