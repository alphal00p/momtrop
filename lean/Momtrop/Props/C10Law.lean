import Momtrop.Props.C10
import Mathlib.MeasureTheory.Measure.Lebesgue.Basic
/-!
# C10, the distributional form: covariance `(V/2λ)·L⁻¹`, centre `−L⁻¹u`

`momenta_law` reads the map `q ↦ k = c·Q⁻ᵀq − L⁻¹u` of `compute_loop_momenta` (`momenta_eq`; `c² = V/(2λ)`) as a statement about laws. Its
hypothesis `Q⁻¹LQ⁻ᵀ = 1` is proved for the routine's factors (`qTInv_whitens`); the symmetry of `L` (`lMatrix_symm`) follows from it and
is not used, nor is the measurability of `f`. Proof: Lebesgue measure under an invertible affine map (`lintegral_comp_affine`), applied
to the target weight, whose exponent at `k` is `−|q|²/2` (`quadratic_at_sample`).
-/
open MeasureTheory Real Matrix
open scoped ENNReal

namespace Momtrop.C10
variable {L : ℕ}

/-- The linear part is a homeomorphism, so `g` need not be measurable. -/
theorem lintegral_comp_affine (A : Matrix (Fin L) (Fin L) ℝ) (hA : A.det ≠ 0) (b : Fin L → ℝ) (g : (Fin L → ℝ) → ℝ≥0∞) :
    ∫⁻ q, g (A *ᵥ q + b) = ENNReal.ofReal |A.det⁻¹| * ∫⁻ k, g k := by
  have hAe : MeasurableEmbedding A.mulVecLin :=
    (toLinearEquiv' A (A.invertibleOfIsUnitDet (isUnit_iff_ne_zero.mpr hA))).toContinuousLinearEquiv.toHomeomorph.measurableEmbedding
  calc ∫⁻ q, g (A *ᵥ q + b) = ∫⁻ k, g (k + b) ∂(Measure.map A.mulVecLin volume) :=
        (hAe.lintegral_map fun k => g (k + b)).symm
    _ = _ := by
        rw [← toLin'_apply', Real.map_matrix_volume_pi_eq_smul_volume_pi hA, lintegral_smul_measure, lintegral_add_right_eq_self,
          smul_eq_mul]

/-- affine image of the standard Gaussian weight -/
theorem gaussian_affine (A : Matrix (Fin L) (Fin L) ℝ) (hA : A.det ≠ 0) (b : Fin L → ℝ)
    (f : (Fin L → ℝ) → ℝ≥0∞) (hf : Measurable f) :
    ∫⁻ q, f (A *ᵥ q + b) * ENNReal.ofReal (exp (-(q ⬝ᵥ q) / 2))
      = ENNReal.ofReal |A.det⁻¹| *
        ∫⁻ k, f k * ENNReal.ofReal (exp (-((A⁻¹ *ᵥ (k - b)) ⬝ᵥ (A⁻¹ *ᵥ (k - b))) / 2)) := by
  rw [← lintegral_comp_affine A hA b]
  simp only [add_sub_cancel_right, mulVec_mulVec, nonsing_inv_mul _ (isUnit_iff_ne_zero.mpr hA), one_mulVec]

theorem det_whitening (Lm Qti : Matrix (Fin L) (Fin L) ℝ) (c : ℝ) (hQ : Qtiᵀ * Lm * Qti = 1) :
    (c • Qti).det ^ 2 * Lm.det = c ^ (2 * L) := by
  have h1 : Qti.det * Lm.det * Qti.det = 1 := by
    have := congrArg Matrix.det hQ
    rwa [det_mul, det_mul, det_transpose, det_one] at this
  rw [det_smul, Fintype.card_fin]
  calc (c ^ L * Qti.det) ^ 2 * Lm.det = c ^ (2 * L) * (Qti.det * Lm.det * Qti.det) := by ring
    _ = c ^ (2 * L) := by rw [h1, mul_one]

/-- one component: if `q` has the standard Gaussian weight then `k = c·Q⁻ᵀq − L⁻¹u` has the Gaussian weight with centre `−L⁻¹u` and
covariance `c²·L⁻¹`, normalised by `√(det L)/c^L` -/
theorem momenta_law (Lm Qti Li : Matrix (Fin L) (Fin L) ℝ) (c : ℝ) (hc : 0 < c)
    (hQ : Qtiᵀ * Lm * Qti = 1) (hsym : Lmᵀ = Lm) (u : Fin L → ℝ)
    (f : (Fin L → ℝ) → ℝ≥0∞) (hf : Measurable f) :
    ∫⁻ q, f (c • (Qti *ᵥ q) - Li *ᵥ u) * ENNReal.ofReal (exp (-(q ⬝ᵥ q) / 2))
      = ENNReal.ofReal (√(Lm.det) / c ^ L) *
        ∫⁻ k, f k * ENNReal.ofReal (exp (-((k + Li *ᵥ u) ⬝ᵥ (Lm *ᵥ (k + Li *ᵥ u))) / (2 * c ^ 2))) := by
  have hd := det_whitening Lm Qti c hQ
  have hcL : 0 < c ^ L := pow_pos hc L
  have hdet : (c • Qti).det ≠ 0 := by
    intro h0
    rw [h0, zero_pow two_ne_zero, zero_mul] at hd
    exact (pow_pos hc _).ne hd
  have hconst : √(Lm.det) / c ^ L = |(c • Qti).det⁻¹| := by
    have : Lm.det = (c ^ L * |(c • Qti).det⁻¹|) ^ 2 := by
      rw [mul_pow, sq_abs, inv_pow, ← pow_mul', ← hd, mul_comm (_ ^ 2), mul_inv_cancel_right₀ (pow_ne_zero 2 hdet)]
    rw [this, sqrt_sq (mul_nonneg hcL.le (abs_nonneg _)), mul_div_cancel_left₀ _ hcL.ne']
  rw [hconst, ← lintegral_comp_affine (c • Qti) hdet (-(Li *ᵥ u))]
  refine lintegral_congr fun q => ?_
  -- at `k = c·Q⁻ᵀq − L⁻¹u` the quadratic form is `c²|q|²`
  rw [neg_add_cancel_right, smul_mulVec, ← sub_eq_add_neg, quadratic_at_sample Lm Qti q c hQ, ← mul_neg, mul_comm 2,
    mul_div_mul_left _ _ (pow_pos hc 2).ne']

/-- non-vacuity of `momenta_law`: its hypotheses are met, e.g. by `L = Q⁻ᵀ = 1` in two loops with `c = 3` -/
example : ((1 : Matrix (Fin 2) (Fin 2) ℝ)ᵀ * 1 * 1 = 1) ∧ ((1 : Matrix (Fin 2) (Fin 2) ℝ)ᵀ = 1) ∧ (0 : ℝ) < 3 := by
  refine ⟨by simp, by simp, by norm_num⟩
end Momtrop.C10
