import Momtrop.Props.C07Sector
import Momtrop.Props.C07Forest
/-!
# The tropical values of a run of the sampler are the greedy products of its removal order

The combinatorial statements of `C07Greedy.lean`, `C07Major.lean`, `C07Forest.lean` speak of an order `σ` of the edges and parameters `x`
non-increasing along it. A successful run of `permatuhedral_sampling` on a table whose flags are those of a graph gives such a pair, its
removal order and its pre-rescaling parameters (`run_facts`), and its logged `u_trop`, `v_trop` are the greedy product of the loop number and
the spanning part of the greedy vertex (`run_uTr`, `run_vTr`). Each statement about the sampler is then its combinatorial counterpart at
that pair: plural `mass_terms_le`, `momentum_terms_le` for the run, singular `mass_term_le`, `momentum_term_le` for any `σ`, `x`.
-/
namespace Momtrop.C07

/-! ### the loop along a chain that removes every edge -/
section run
variable {β : Type}

theorem toFinset_pop (n : Nat) (g : Mask) (e : Nat) (he : e ∈ Mask.edges n g) :
    (Mask.edges n g).toFinset = insert e (Mask.edges n (Mask.pop g e)).toFinset := by
  ext y
  rw [Finset.mem_insert, List.mem_toFinset, List.mem_toFinset, Mask.edges_pop_erase n g e he, (Mask.edges_nodup n g).mem_erase_iff]
  exact ⟨fun hy => (eq_or_ne y e).imp_right fun hne => ⟨hne, hy⟩, fun h => h.elim (fun h => h ▸ he) And.right⟩

/-- a successful run of the removal loop with enough fuel removes every edge of `g` -/
theorem permTrace_complete (T : STable ℝ) (xs : List ℝ) :
    ∀ (fuel : Nat) (g : Mask) (st st' : PState ℝ), g < 2 ^ T.numEdges → (Mask.edges T.numEdges g).length ≤ fuel →
      permLoop T xs fuel g st = some st' →
      ((permTrace T xs fuel g st.cnt).map (·.e)).toFinset = (Mask.edges T.numEdges g).toFinset := by
  intro fuel g st st' hg hlen h
  obtain ⟨⟨-, -, hch⟩, -, hl⟩ := permLoop_run T xs fuel g st st' h
  -- the trace is a chain, so its edges are edges of `g`, and it has as many steps as `g` has edges
  obtain ⟨l, hp⟩ := chain_perm g _ hch
  have hcount := hp.length_eq
  rw [List.length_append, List.length_map, hl hg hlen] at hcount
  rw [List.eq_nil_of_length_eq_zero (Nat.left_eq_add.mp hcount), List.append_nil] at hp
  exact (List.toFinset_eq_of_perm _ _ hp).symm

theorem chain_step {α : Type} [Scalar α] {n : Nat} {g : Mask} {s : Step α} {rest : List (Step α)} (hg : g < 2 ^ n) (hch : Chain n g (s :: rest))
    (hcomp : (Mask.edges n g).toFinset = ((s :: rest).map (·.e)).toFinset) :
    s.rest < 2 ^ n ∧ Chain n s.rest rest ∧ (Mask.edges n s.rest).toFinset = (rest.map (·.e)).toFinset := by
  have hp : ((s :: rest).map (·.e)).Perm (Mask.edges n g) :=
    List.perm_of_nodup_nodup_toFinset_eq (chain_nodup g (s :: rest) hch) (Mask.edges_nodup n g) hcomp.symm
  obtain ⟨-, hpop, hch'⟩ := hch
  obtain ⟨-, hlt, hτ, -⟩ := Mask.perm_pop hg hp
  rw [hpop]
  exact ⟨hlt, hpop ▸ hch', (List.toFinset_eq_of_perm _ _ hτ).symm⟩

/-- `u_trop` as the loop computes it along a chain that removes every edge is the greedy product, for a table with the graph's loop numbers -/
theorem tropReplay_fst (T : STable ℝ) (top : List (TEdge β))
    (hL : ∀ m, m < 2 ^ T.numEdges → T.loops m = loopsOf top (Mask.edges T.numEdges m).toFinset) (x : ℕ → ℝ) :
    ∀ (tr : List (Step ℝ)) (κ u v : ℝ) (g : Mask), g < 2 ^ T.numEdges → Chain T.numEdges g tr →
      (Mask.edges T.numEdges g).toFinset = (tr.map (·.e)).toFinset →
      (∀ (k : Nat) (hk : k < tr.length), x (tr[k].e) = kappaAt T κ tr k) →
      (tropReplay T κ u v g tr).1 = u * greedyProd (loopsOf top) x (tr.map (·.e)) := by
  intro tr
  induction tr with
  | nil => intro κ u v g _ _ _ _; simp [tropReplay, greedyProd]
  | cons s rest ih =>
    intro κ u v g hg hch hcomp hx
    obtain ⟨hg', hch', hcomp'⟩ := chain_step hg hch hcomp
    rw [List.map_cons, List.toFinset_cons] at hcomp
    have hx0 : x s.e = κ := hx 0 (Nat.succ_pos _)
    simp only [tropReplay, List.map_cons, greedyProd]
    rw [ih _ _ _ s.rest hg' hch' hcomp' (fun k hk => hx (k + 1) (Nat.succ_lt_succ hk)), hL g hg, hL s.rest hg', hcomp, hcomp', hx0]
    rw [← mul_assoc, mul_ite, mul_one]

/-- the form of `tropReplay_snd` that goes through the induction: from a graph that is not spanning no later removal touches `v` -/
theorem tropReplay_snd_eq (T : STable ℝ) (mm : Finset ℕ → Bool) (hm : SpanLike mm)
    (hM : ∀ m, m < 2 ^ T.numEdges → T.mms m = mm (Mask.edges T.numEdges m).toFinset) (x : ℕ → ℝ) :
    ∀ (tr : List (Step ℝ)) (κ u v : ℝ) (g : Mask), g < 2 ^ T.numEdges → Chain T.numEdges g tr →
      (Mask.edges T.numEdges g).toFinset = (tr.map (·.e)).toFinset →
      (∀ (k : Nat) (hk : k < tr.length), x (tr[k].e) = kappaAt T κ tr k) →
      (tropReplay T κ u v g tr).2 = if T.mms g = true then tropPow (mInd mm) x (tr.map (·.e)) else v := by
  intro tr
  induction tr with
  | nil =>
    intro κ u v g hg _ hcomp _
    rw [hM g hg, hcomp, List.map_nil, List.toFinset_nil, hm.empty]
    rfl
  | cons s rest ih =>
    intro κ u v g hg hch hcomp hx
    obtain ⟨hg', hch', hcomp'⟩ := chain_step hg hch hcomp
    rw [List.map_cons, List.toFinset_cons] at hcomp
    rw [tropReplay, ih _ _ _ s.rest hg' hch' hcomp' (fun k hk => hx (k + 1) (Nat.succ_lt_succ hk)), List.map_cons, vPow_cons hm,
      ← hcomp, ← hcomp', ← hM g hg, ← hM _ hg', show x s.e = κ from hx 0 (Nat.succ_pos _)]
    cases hr : T.mms s.rest
    · cases T.mms g <;> rfl
    · have hgt : T.mms g = true := by
        rw [hM g hg, hcomp]
        exact hm.mono _ _ (by rw [← hcomp', ← hM _ hg', hr])
      rw [hgt]
      rfl

/-- likewise `v_trop`, from a spanning graph on, is the spanning part of the greedy vertex -/
theorem tropReplay_snd (T : STable ℝ) (mm : Finset ℕ → Bool) (hm : SpanLike mm)
    (hM : ∀ m, m < 2 ^ T.numEdges → T.mms m = mm (Mask.edges T.numEdges m).toFinset) (x : ℕ → ℝ) :
    ∀ (tr : List (Step ℝ)) (κ u v : ℝ) (g : Mask), g < 2 ^ T.numEdges → Chain T.numEdges g tr →
      (Mask.edges T.numEdges g).toFinset = (tr.map (·.e)).toFinset →
      (∀ (k : Nat) (hk : k < tr.length), x (tr[k].e) = kappaAt T κ tr k) → T.mms g = true →
      (tropReplay T κ u v g tr).2 = tropPow (mInd mm) x (tr.map (·.e)) := by
  intro tr κ u v g hg hch hcomp hx ht
  rw [tropReplay_snd_eq T mm hm hM x tr κ u v g hg hch hcomp hx, if_pos ht]

/-! ### a successful run -/

theorem run_trace (T : STable ℝ) (xs : List ℝ) (r : PermResult ℝ) (h : permutahedral T xs = some r) :
    let tr := permTrace T xs T.numEdges (Mask.full T.numEdges) 0
    r.order = tr.map (·.e) ∧ Chain T.numEdges (Mask.full T.numEdges) tr ∧
      (Mask.edges T.numEdges (Mask.full T.numEdges)).toFinset = (tr.map (·.e)).toFinset ∧
      (∀ (k : Nat) (hk : k < tr.length), r.xPre.getD (tr[k].e) 0 = kappaAt T 1 tr k) ∧
      (∀ e, e ∉ tr.map (·.e) → r.xPre.getD e 0 = 0) ∧
      (r.uTrPre, r.vTrPre) = tropReplay T 1 1 1 (Mask.full T.numEdges) tr := by
  intro tr
  obtain ⟨st, hp, rfl⟩ := permutahedral_some h
  obtain ⟨h1, h2, h3⟩ := permLoop_trace T xs T.numEdges (Mask.full T.numEdges) _ st hp
  have h1' : st.x = replay T 1 (List.replicate T.numEdges 0) tr := h1
  refine ⟨h2, h3, ?_, fun k hk => ?_, fun e he => ?_, permLoop_trop T xs T.numEdges (Mask.full T.numEdges) _ st hp⟩
  · exact (permTrace_complete T xs T.numEdges (Mask.full T.numEdges) _ st (Mask.full_lt _)
      (by rw [Mask.edges_full, List.length_range]) hp).symm
  · rw [h1', List.getD_eq_getElem?_getD, replay_get T tr 1 _ (chain_nodup _ tr h3)
      (fun s hs => by rw [List.length_replicate]; exact chain_lt _ tr h3 s hs) k hk, Option.getD_some]
  · rw [h1', List.getD_eq_getElem?_getD, replay_get_other T tr 1 _ e he, List.getElem?_replicate]
    split
    · rfl
    · rfl

/-- `x` lies in the sector of the ordering `σ` of the edges `0, …, n-1`: the situation of all statements about the greedy products -/
structure InSector (n : ℕ) (x : ℕ → ℝ) (σ : List ℕ) : Prop where
  nodup : σ.Nodup
  range : σ.toFinset = Finset.range n
  pos : ∀ e ∈ σ, 0 < x e
  anti : σ.Pairwise fun p q => x q ≤ x p
  nonneg : ∀ e, 0 ≤ x e

theorem InSector.mem_iff {n : ℕ} {x : ℕ → ℝ} {σ : List ℕ} (S : InSector n x σ) {e : ℕ} : e ∈ σ ↔ e < n := by
  rw [← List.mem_toFinset, S.range, Finset.mem_range]

/-- the pre-rescaling parameters of a successful run lie in the sector of its removal order, for coordinates `ξ ∈ (0,1]` of the point and
positive `ω` of the remaining graphs (accepted table, C05) -/
theorem run_facts (T : STable ℝ) (xs : List ℝ) (r : PermResult ℝ) (h : permutahedral T xs = some r)
    (hpos : ∀ s ∈ permTrace T xs T.numEdges (Mask.full T.numEdges) 0, ∀ xi, s.xi = some xi → 0 < xi ∧ xi ≤ 1 ∧ 0 < T.omega s.rest) :
    InSector T.numEdges (fun e => r.xPre.getD e 0) r.order := by
  obtain ⟨hord, hchain, hcomp, hxk, hx0, _⟩ := run_trace T xs r h
  generalize permTrace T xs T.numEdges (Mask.full T.numEdges) 0 = tr at *
  have hxk' : ∀ (k : Nat) (hk : k < tr.length), r.xPre.getD (tr[k].e) 0 = ((tr.take k).map (factor T)).prod := fun k hk => by
    rw [hxk k hk, kappaAt_prod, one_mul]
  have hp : ∀ e ∈ tr.map (·.e), 0 < r.xPre.getD e 0 := by
    intro e he
    obtain ⟨k, hk, rfl⟩ := List.getElem_of_mem he
    rw [List.length_map] at hk
    rw [List.getElem_map, hxk' k hk]
    exact (sector_monotone T tr hpos k hk).2.2
  refine ⟨hord ▸ chain_nodup _ tr hchain, ?_, hord ▸ hp, ?_, fun e => ?_⟩
  · rw [hord, ← hcomp, Mask.edges_full, List.toFinset_range]
  · rw [hord, List.pairwise_iff_getElem]
    intro i j hi hj hij
    rw [List.length_map] at hi hj
    rw [List.getElem_map, List.getElem_map, hxk' i hi, hxk' j hj]
    exact sector_antitone T tr hpos hij.le
  · by_cases he : e ∈ tr.map (·.e)
    · exact (hp e he).le
    · exact (hx0 e he).ge

theorem run_uTr (T : STable ℝ) (top : List (TEdge β))
    (hL : ∀ m, m < 2 ^ T.numEdges → T.loops m = loopsOf top (Mask.edges T.numEdges m).toFinset)
    (xs : List ℝ) (r : PermResult ℝ) (h : permutahedral T xs = some r) :
    r.uTrPre = greedyProd (loopsOf top) (fun e => r.xPre.getD e 0) r.order := by
  obtain ⟨hord, hchain, hcomp, hxk, _, huv⟩ := run_trace T xs r h
  rw [hord, ← one_mul (greedyProd _ _ _), ← tropReplay_fst T top hL _ _ 1 1 1 _ (Mask.full_lt _) hchain hcomp hxk, ← huv]

theorem run_vTr (T : STable ℝ) (mm : Finset ℕ → Bool) (hm : SpanLike mm)
    (hM : ∀ m, m < 2 ^ T.numEdges → T.mms m = mm (Mask.edges T.numEdges m).toFinset)
    (hspan : T.mms (Mask.full T.numEdges) = true)
    (xs : List ℝ) (r : PermResult ℝ) (h : permutahedral T xs = some r) :
    r.vTrPre = tropPow (mInd mm) (fun e => r.xPre.getD e 0) r.order := by
  obtain ⟨hord, hchain, hcomp, hxk, _, huv⟩ := run_trace T xs r h
  rw [hord, ← tropReplay_snd T mm hm hM _ _ 1 1 1 _ (Mask.full_lt _) hchain hcomp hxk hspan, ← huv]

theorem run_span (T : STable ℝ) (mm : Finset ℕ → Bool)
    (hM : ∀ m, m < 2 ^ T.numEdges → T.mms m = mm (Mask.edges T.numEdges m).toFinset)
    (hspan : T.mms (Mask.full T.numEdges) = true) {x : ℕ → ℝ} {σ : List ℕ} (S : InSector T.numEdges x σ) :
    mm σ.toFinset = true := by
  rw [S.range, ← List.toFinset_range, ← Mask.edges_full, ← hM _ (Mask.full_lt _)]
  exact hspan

/-! ### the statements on the sampler -/

/-- C07, first tropical value, on the sampler itself: for a table with the loop numbers of the graph (what `generate_from_tropical` stores, C03)
every cotree monomial of the pre-rescaling parameters is at most the reported `u_trop`, and `u_trop` is one of them -/
theorem uTrop_is_largest_monomial (T : STable ℝ) (top : List (TEdge β))
    (hL : ∀ m, m < 2 ^ T.numEdges → T.loops m = loopsOf top (Mask.edges T.numEdges m).toFinset)
    (xs : List ℝ) (r : PermResult ℝ) (h : permutahedral T xs = some r)
    (hpos : ∀ s ∈ permTrace T xs T.numEdges (Mask.full T.numEdges) 0, ∀ xi, s.xi = some xi → 0 < xi ∧ xi ≤ 1 ∧ 0 < T.omega s.rest) :
    let x : ℕ → ℝ := fun e => r.xPre.getD e 0
    (∀ C, Cotree (loopsOf top) (Finset.range T.numEdges) C → ∏ e ∈ C, x e ≤ r.uTrPre) ∧
      ∃ C, Cotree (loopsOf top) (Finset.range T.numEdges) C ∧ ∏ e ∈ C, x e = r.uTrPre := by
  intro x
  have S := run_facts T xs r h hpos
  have := uTrop_largest_monomial top r.order S.nodup x S.nonneg S.anti
  rwa [S.range, ← run_uTr T top hL xs r h] at this

/-- `u_trop · v_trop` of the sampler is the greedy vertex of the `F`-polytope of the table flags -/
theorem uv_trop (T : STable ℝ) (top : List (TEdge β)) (mm : Finset ℕ → Bool) (hm : SpanLike mm)
    (hL : ∀ m, m < 2 ^ T.numEdges → T.loops m = loopsOf top (Mask.edges T.numEdges m).toFinset)
    (hM : ∀ m, m < 2 ^ T.numEdges → T.mms m = mm (Mask.edges T.numEdges m).toFinset)
    (hspan : T.mms (Mask.full T.numEdges) = true)
    (xs : List ℝ) (r : PermResult ℝ) (h : permutahedral T xs = some r)
    (hpos : ∀ s ∈ permTrace T xs T.numEdges (Mask.full T.numEdges) 0, ∀ xi, s.xi = some xi → 0 < xi ∧ xi ≤ 1 ∧ 0 < T.omega s.rest) :
    r.uTrPre * r.vTrPre = tropPow (zF (loopsOf top) mm) (fun e => r.xPre.getD e 0) r.order := by
  rw [tropPow_split (loopsOf_nullity top) hm _ _ (run_facts T xs r h hpos).nodup, ← run_uTr T top hL xs r h,
    ← run_vTr T mm hm hM hspan xs r h]

/-- C07, second tropical value: the reported `u_trop · v_trop` is the maximum of `∏ x^a` over the exponent vectors `a` of the `F`-polytope
(`Σ_{e∈γ} a_e ≥ L(γ) + [γ mass-momentum spanning]` on the graphs `γ` left along the removal order, total `L + 1`) -/
theorem F_polytope_max (T : STable ℝ) (top : List (TEdge β)) (mm : Finset ℕ → Bool) (hm : SpanLike mm)
    (hL : ∀ m, m < 2 ^ T.numEdges → T.loops m = loopsOf top (Mask.edges T.numEdges m).toFinset)
    (hM : ∀ m, m < 2 ^ T.numEdges → T.mms m = mm (Mask.edges T.numEdges m).toFinset)
    (hspan : T.mms (Mask.full T.numEdges) = true)
    (xs : List ℝ) (r : PermResult ℝ) (h : permutahedral T xs = some r)
    (hpos : ∀ s ∈ permTrace T xs T.numEdges (Mask.full T.numEdges) 0, ∀ xi, s.xi = some xi → 0 < xi ∧ xi ≤ 1 ∧ 0 < T.omega s.rest)
    (a : ℕ → ℕ)
    (hdom : ∀ k, zF (loopsOf top) mm (r.order.drop k).toFinset ≤ ((r.order.drop k).map a).sum)
    (htot : (r.order.map a).sum = zF (loopsOf top) mm r.order.toFinset) :
    (r.order.map fun e => (r.xPre.getD e 0) ^ a e).prod ≤ r.uTrPre * r.vTrPre := by
  have S := run_facts T xs r h hpos
  rw [uv_trop T top mm hm hL hM hspan xs r h hpos]
  exact polytope_max (zF_zero (loopsOf_nullity top) hm) (zF_mono (loopsOf_nullity top) hm) _ r.order S.pos S.anti a hdom htot

/-- every mass term of `F` (`C` the complement of a spanning forest, `e₀` massive) is at most the reported `u_trop · v_trop` -/
theorem mass_terms_le (T : STable ℝ) (top : List (TEdge β)) (mm : Finset ℕ → Bool) (hm : SpanLike mm)
    (hL : ∀ m, m < 2 ^ T.numEdges → T.loops m = loopsOf top (Mask.edges T.numEdges m).toFinset)
    (hM : ∀ m, m < 2 ^ T.numEdges → T.mms m = mm (Mask.edges T.numEdges m).toFinset)
    (hspan : T.mms (Mask.full T.numEdges) = true)
    (xs : List ℝ) (r : PermResult ℝ) (h : permutahedral T xs = some r)
    (hpos : ∀ s ∈ permTrace T xs T.numEdges (Mask.full T.numEdges) 0, ∀ xi, s.xi = some xi → 0 < xi ∧ xi ≤ 1 ∧ 0 < T.omega s.rest)
    (C : Finset ℕ) (hC : Cotree (loopsOf top) (Finset.range T.numEdges) C) (e0 : ℕ) (he0 : e0 < T.numEdges)
    (hmass : ∀ A, mm A = true → e0 ∈ A) :
    (r.xPre.getD e0 0) * ∏ e ∈ C, r.xPre.getD e 0 ≤ r.uTrPre * r.vTrPre := by
  have S := run_facts T xs r h hpos
  rw [uv_trop T top mm hm hL hM hspan xs r h hpos]
  exact mass_term_le (loopsOf_nullity top) hm _ r.order S.nodup S.pos S.anti C (S.range ▸ hC) e0
    (S.mem_iff.mpr he0) hmass (run_span T mm hM hspan S)

/-- every momentum term of `F` (`C` the complement of a spanning 2-forest that separates two external vertices) is at most the reported
`u_trop · v_trop` -/
theorem momentum_terms_le (T : STable ℝ) (top : List (TEdge β)) (ext : List ℕ) (mm : Finset ℕ → Bool) (hm : SpanLike mm)
    (hconn : ∀ A, mm A = true → ∀ v ∈ ext, ∀ w ∈ ext, VConn top A.toList v w)
    (hn : T.numEdges = top.length)
    (hL : ∀ m, m < 2 ^ T.numEdges → T.loops m = loopsOf top (Mask.edges T.numEdges m).toFinset)
    (hM : ∀ m, m < 2 ^ T.numEdges → T.mms m = mm (Mask.edges T.numEdges m).toFinset)
    (hspan : T.mms (Mask.full T.numEdges) = true)
    (xs : List ℝ) (r : PermResult ℝ) (h : permutahedral T xs = some r)
    (hpos : ∀ s ∈ permTrace T xs T.numEdges (Mask.full T.numEdges) 0, ∀ xi, s.xi = some xi → 0 < xi ∧ xi ≤ 1 ∧ 0 < T.omega s.rest)
    (C : Finset ℕ) (hCS : C ⊆ Finset.range T.numEdges) (hz : loopsOf top (Finset.range T.numEdges \ C) = 0)
    (hcard : C.card = loopsOf top (Finset.range T.numEdges) + 1) (hsplit : Split top ext (Finset.range T.numEdges \ C)) :
    ∏ e ∈ C, r.xPre.getD e 0 ≤ r.uTrPre * r.vTrPre := by
  have S := run_facts T xs r h hpos
  rw [uv_trop T top mm hm hL hM hspan xs r h hpos]
  exact momentum_term_le top ext mm hm hconn _ r.order S.nodup (fun e he => hn ▸ S.mem_iff.mp he) S.pos S.anti C (S.range ▸ hCS)
    (S.range ▸ hz) (S.range ▸ hcard) (S.range ▸ hsplit) (run_span T mm hM hspan S)

end run

/-- the premises `hm`, `hL`, `hM` of the statements above hold for every table with the flags of `preEntry` (what `generate_from_tropical`
stores; C03 ties them to the code) -/
theorem premises_of_preEntry (T : STable ℝ) (G : TGraph ℝ) (D : Nat) (hn : T.numEdges = G.topology.length)
    (hnm : G.numMassive = ((List.range G.topology.length).filter (isMassive G.topology)).length)
    (hl : ∀ m, m < 2 ^ T.numEdges → T.loops m = (preEntry G D m).2.1)
    (hs : ∀ m, m < 2 ^ T.numEdges → T.mms m = (preEntry G D m).1) :
    SpanLike (mmOf G) ∧
      (∀ m, m < 2 ^ T.numEdges → T.loops m = loopsOf G.topology (Mask.edges T.numEdges m).toFinset) ∧
      (∀ m, m < 2 ^ T.numEdges → T.mms m = mmOf G (Mask.edges T.numEdges m).toFinset) := by
  refine ⟨mmOf_spanLike G hnm, ?_, ?_⟩
  · intro m hm
    rw [hl m hm, hn, preEntry_loops]
  · intro m hm
    rw [hs m hm, hn, mmOf_edges G D m]

end Momtrop.C07
