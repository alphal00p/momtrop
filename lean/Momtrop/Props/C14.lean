import Momtrop.Proofs.SampleInv
import Momtrop.Proofs.MaskLemmas
import Momtrop.Props.C06
/-!
# C14 — each hypercube coordinate is consumed exactly once, in one statistical role

Law-free (`S`) theorems: they hold for every scalar type and every table, whatever values are read
(non-interference). Core Lean only.
-/
namespace Momtrop.C14
variable {α : Type} [Scalar α]

def card (T : STable α) (g : Mask) : Nat := (Mask.edges T.numEdges g).length

omit [Scalar α] in
theorem card_full (T : STable α) : card T (Mask.full T.numEdges) = T.numEdges :=
  Momtrop.card_full T.numEdges

/-- an edge choice consumes one coordinate, except for the last edge (the single-edge shortcut) -/
theorem chooseEdge_spec (T : STable α) (xs : List α) (g : Mask) (cnt : Nat) (hg : g < 2 ^ T.numEdges)
    (e : Nat) (g' : Mask) (cnt' : Nat) (h : chooseEdge T xs g cnt = some (e, g', cnt')) :
    g' < 2 ^ T.numEdges ∧ card T g' + 1 = card T g ∧
      ((card T g = 1 ∧ cnt' = cnt) ∨ (card T g ≠ 1 ∧ cnt' = cnt + 1)) := by
  obtain ⟨hmem, rfl, rfl⟩ := chooseEdge_some T xs g cnt e g' cnt' h
  refine ⟨Mask.pop_lt_of_mem hg hmem, card_pop hmem, ?_⟩
  by_cases h1 : Mask.hasOneEdge g = true
  · exact .inl ⟨(Mask.hasOneEdge_iff hg).mp h1, if_pos h1⟩
  · exact .inr ⟨mt (Mask.hasOneEdge_iff hg).mpr h1, if_neg h1⟩

/-- for the removal loop, which asks whether the rest is empty: the shortcut applies exactly when the removal empties `g` -/
theorem chooseEdge_step (T : STable α) (xs : List α) (g : Mask) (cnt : Nat) (hg : g < 2 ^ T.numEdges)
    (e : Nat) (g' : Mask) (cnt' : Nat) (h : chooseEdge T xs g cnt = some (e, g', cnt')) :
    g' < 2 ^ T.numEdges ∧ card T g' + 1 = card T g ∧ cnt' = if Mask.isEmpty g' then cnt else cnt + 1 := by
  obtain ⟨hmem, rfl, rfl⟩ := chooseEdge_some T xs g cnt e g' cnt' h
  refine ⟨Mask.pop_lt_of_mem hg hmem, card_pop hmem, ?_⟩
  simp only [Mask.isEmpty_pop_iff hg hmem]

/-- the removal loop reads `2k − 2` coordinates for a subgraph with `k ≥ 1` edges, whatever their values -/
theorem permLoop_reads (T : STable α) (xs : List α) :
    ∀ (fuel : Nat) (g : Mask) (st st' : PState α), g < 2 ^ T.numEdges → card T g ≤ fuel → 1 ≤ card T g →
      permLoop T xs fuel g st = some st' → st'.cnt + 2 = st.cnt + 2 * card T g := by
  intro fuel g st st' hg hfuel hpos h
  fun_induction permLoop T xs fuel g st generalizing st'
  case case1 => exact absurd (Nat.le_trans hpos hfuel) (Nat.not_succ_le_zero 0)
  case case2 he =>
    have h0 : card T _ = 0 := (Mask.isEmpty_iff_card hg).mp he
    rw [h0] at hpos
    cases hpos
  case case3 => cases h
  case case4 g st _ e g' cnt hc _ _ _ hz =>
    -- the last removal: `g` had one edge, no coordinate was read
    cases h
    obtain ⟨hg', hcard, hcnt⟩ := chooseEdge_step T xs g st.cnt hg e g' cnt hc
    have h0 : card T g' = 0 := (Mask.isEmpty_iff_card hg').mp hz
    rw [hcnt, if_pos hz, ← hcard, h0]
  case case5 => cases h
  case case6 g st _ e g' cnt hc _ _ _ hz xi _ ih =>
    -- one coordinate for the choice among at least two edges, one for `ξ`
    obtain ⟨hg', hcard, hcnt⟩ := chooseEdge_step T xs g st.cnt hg e g' cnt hc
    rw [← hcard] at hfuel ⊢
    rw [ih st' hg' (Nat.le_of_succ_le_succ hfuel) (Nat.pos_of_ne_zero (mt (Mask.isEmpty_iff_card hg').mpr hz)) h,
      hcnt, if_neg hz]
    show st.cnt + 2 + 2 * card T g' = st.cnt + 2 * (card T g' + 1)
    rw [Nat.mul_succ, Nat.add_comm (2 * _), ← Nat.add_assoc]

/-- `permatuhedral_sampling` reads the coordinates `xs[0..2E−2)`: the counter starts at 0 and every read is at the counter -/
theorem permutahedral_reads (T : STable α) (xs : List α) (r : PermResult α) (hE : 1 ≤ T.numEdges)
    (h : permutahedral T xs = some r) : r.reads + 2 = 2 * T.numEdges := by
  obtain ⟨st, hp, rfl⟩ := permutahedral_some h
  have := permLoop_reads T xs T.numEdges (Mask.full T.numEdges) _ st (Mask.full_lt _) (Nat.le_of_eq (card_full T))
    ((card_full T).symm ▸ hE) hp
  rwa [card_full, Nat.zero_add] at this

/-- a successful sample has read `get_dimension()` coordinates: `2E − 2` for the Feynman parameters, one for the Gamma
variate, `D·L + (D·L mod 2)` for the Gaussians -/
theorem sample_reads_dim (draw : α → α → Option α) (T : STable α) (D : Nat) (xs : List α)
    (S : List (List Int)) (ed : List (Option α × Vec α)) (st : Settings α) (res : SampleResult α)
    (hE : 1 ≤ T.numEdges) (h : sampleCore draw T D xs S ed st = some (.ok res)) :
    res.reads + 1 = 2 * T.numEdges + T.dimension * T.numLoops + (T.dimension * T.numLoops) % 2 := by
  obtain ⟨pr, dec, p, lam, q, hpr, _, _, _, _, rfl⟩ := (sampleCore_ok_iff draw T D xs S ed st res).mp h
  have := permutahedral_reads T xs pr hE hpr
  rw [Nat.add_assoc (2 * T.numEdges), ← this]
  exact Nat.add_right_comm (pr.reads + 1) (qReads T.dimension T.numLoops) 1

/-- the draw is used once, on `(dod, xs[2E−2])`: two draws that agree there give the same sample -/
theorem lambda_depends_one (draw draw' : α → α → Option α) (T : STable α) (D : Nat) (xs : List α)
    (S : List (List Int)) (ed : List (Option α × Vec α)) (st : Settings α)
    (h : ∀ pr p, permutahedral T xs = some pr → xs[pr.reads]? = some p → draw T.dod p = draw' T.dod p) :
    sampleCore draw T D xs S ed st = sampleCore draw' T D xs S ed st :=
  sampleCore_congr draw draw' T D xs xs S ed st rfl rfl fun pr hpr => ⟨rfl, fun p hp => h pr p hpr hp, rfl⟩

theorem gaussian_depends_pair (xs ys : List α) (base n : Nat)
    (h1 : xs[base + 2 * (n / 2)]? = ys[base + 2 * (n / 2)]?)
    (h2 : xs[base + 2 * (n / 2) + 1]? = ys[base + 2 * (n / 2) + 1]?) :
    gaussianAt xs base n = gaussianAt ys base n := by
  unfold gaussianAt; rw [h1, h2]

/-- the removal loop only looks at coordinates `cnt ≤ i < cnt + 2k − 2` (`k` = number of edges left) -/
theorem permLoop_congr (T : STable α) (xs ys : List α) :
    ∀ (fuel : Nat) (g : Mask) (st : PState α), g < 2 ^ T.numEdges → card T g ≤ fuel →
      (∀ i, st.cnt ≤ i → i + 2 < st.cnt + 2 * card T g → xs[i]? = ys[i]?) →
      permLoop T xs fuel g st = permLoop T ys fuel g st := by
  intro fuel
  induction fuel with
  | zero => intro g st _ _ _; rfl
  | succ fuel ih =>
    intro g st hg hfuel hagree
    rw [permLoop, permLoop]
    by_cases he : Mask.isEmpty g = true
    · rw [if_pos he, if_pos he]
    rw [if_neg he, if_neg he]
    have h0 : card T g ≠ 0 := mt (Mask.isEmpty_iff_card hg).mpr he
    -- the choice reads `xs[st.cnt]` only if at least two edges are left
    rw [← chooseEdge_congr T xs ys g st.cnt fun hone => by
      have h1 : card T g ≠ 1 := mt (Mask.hasOneEdge_iff hg).mpr (Bool.eq_false_iff.mp hone)
      have h2 : 2 < 2 * card T g :=
        (Nat.lt_mul_iff_one_lt_right Nat.two_pos).mpr (Nat.one_lt_iff_ne_zero_and_ne_one.mpr ⟨h0, h1⟩)
      exact hagree st.cnt (Nat.le_refl _) (Nat.add_lt_add_left h2 _)]
    cases hc : chooseEdge T xs g st.cnt with
    | none => rfl
    | some r =>
      obtain ⟨e, g', cnt⟩ := r
      obtain ⟨hg', hcard, hcnt⟩ := chooseEdge_step T xs g st.cnt hg e g' cnt hc
      simp only
      by_cases hz : Mask.isEmpty g' = true
      · rw [if_pos hz, if_pos hz]
      rw [if_neg hz, if_neg hz]
      rw [if_neg hz] at hcnt
      subst hcnt
      rw [← hcard] at hfuel
      replace hagree : ∀ i, st.cnt ≤ i → i + 2 < st.cnt + 2 + 2 * card T g' → xs[i]? = ys[i]? := by
        rwa [← hcard, Nat.mul_succ, Nat.add_comm (2 * _), ← Nat.add_assoc] at hagree
      have h0' : card T g' ≠ 0 := mt (Mask.isEmpty_iff_card hg').mpr hz
      have h1' : 1 < 2 * card T g' :=
        Nat.lt_of_lt_of_le Nat.one_lt_two (Nat.le_mul_of_pos_right 2 (Nat.pos_of_ne_zero h0'))
      -- `ξ` is read at `st.cnt + 1`, and the rest of the run reads from `st.cnt + 2` on
      rw [← hagree (st.cnt + 1) (Nat.le_succ _) (Nat.add_lt_add_left h1' _)]
      cases xs[st.cnt + 1]? with
      | none => rfl
      | some xi =>
        exact ih g' _ hg' (Nat.le_of_succ_le_succ hfuel)
          fun i h1 => hagree i (Nat.le_trans (Nat.le_add_right _ 2) h1)

theorem feynman_depends_first (T : STable α) (xs ys : List α)
    (h : ∀ i, i + 2 < 2 * T.numEdges → xs[i]? = ys[i]?) : permutahedral T xs = permutahedral T ys := by
  simp only [permutahedral]
  rw [permLoop_congr T xs ys T.numEdges (Mask.full T.numEdges) _ (Mask.full_lt _) (Nat.le_of_eq (card_full T))
    fun i _ hi => h i (by rwa [card_full, Nat.zero_add] at hi)]

theorem qVectors_congr (xs ys : List α) (base D L : Nat)
    (h : ∀ i, base ≤ i → i < base + qReads D L → xs[i]? = ys[i]?) : qVectors xs base D L = qVectors ys base D L := by
  apply mapM_congr_mem
  intro l hl
  apply mapM_congr_mem
  intro i hi
  have hn : l * D + i < D * L :=
    calc l * D + i < l * D + D := Nat.add_lt_add_left (List.mem_range.mp hi) _
      _ = (l + 1) * D := (Nat.succ_mul l D).symm
      _ ≤ L * D := Nat.mul_le_mul_right D (List.mem_range.mp hl)
      _ = D * L := Nat.mul_comm L D
  have hp := pair_lt_qReads D L (l * D + i) hn
  exact gaussian_depends_pair xs ys base (l * D + i)
    (h _ (Nat.le_add_right _ _) (Nat.add_lt_add_left (Nat.lt_of_succ_lt hp) base))
    (h _ (Nat.le_add_right base (2 * ((l * D + i) / 2) + 1)) (Nat.add_lt_add_left hp base))

/-- coordinates beyond `get_dimension()` are ignored: two points that agree on the first `get_dimension()` coordinates give
the same result, the same error or the same panic -/
theorem sample_ignores_tail (draw : α → α → Option α) (T : STable α) (D : Nat) (xs ys : List α)
    (S : List (List Int)) (ed : List (Option α × Vec α)) (st : Settings α) (hE : 1 ≤ T.numEdges)
    (hne : xs.isEmpty = ys.isEmpty)
    (h : ∀ i, i + 1 < 2 * T.numEdges + qReads T.dimension T.numLoops → xs[i]? = ys[i]?) :
    sampleCore draw T D xs S ed st = sampleCore draw T D ys S ed st := by
  refine sampleCore_congr draw draw T D xs ys S ed st hne
    (feynman_depends_first T xs ys fun i hi => h i (Nat.lt_add_right _ (Nat.lt_of_succ_lt hi))) fun pr hpr => ?_
  rw [← permutahedral_reads T ys pr hE hpr] at h
  exact ⟨h pr.reads (Nat.lt_add_right _ (Nat.lt_succ_self _)), fun _ _ => rfl,
    qVectors_congr xs ys (pr.reads + 1) T.dimension T.numLoops fun i _ hi =>
      h i (Nat.lt_of_lt_of_eq (Nat.succ_lt_succ hi) (Nat.add_right_comm _ _ 1))⟩

end Momtrop.C14
