import Mathlib.Algebra.Order.BigOperators.Ring.Finset
import Mathlib.Data.Real.Basic
/-!
# The greedy vertex of a generalised permutahedron maximises every monomial of the polytope in its sector

`majorization`: for `x₁ ≥ … ≥ xₙ > 0` (`majorization_nonneg`: `≥ 0`) and exponent vectors `a`, `g` with equal totals and every tail sum of `a`
at least that of `g`, `∏ xⱼ^aⱼ ≤ ∏ xⱼ^gⱼ` (Abel summation, by induction from the front). `polytope_max` reads it for a monotone set function
`z` with `z ∅ = 0`, a removal order `σ` and parameters non-increasing along it: `tropPow`, the greedy vertex of the generalised permutahedron
`{a : Σ_{e∈γ} a_e ≥ z(γ), Σ_S a = z(S)}` in the sector of `σ`, dominates `∏ x^a` for every `a` that meets these inequalities on the suffixes
of `σ`. `prod_le_tropPow` is the case of a 0/1 vector, in which the monomials of `U` and the momentum terms of `F` meet it.
-/
namespace Momtrop.C07

/-! Majorization is stated for a list of triples `(x, a, g)`: a parameter and its two exponents. `PA`, `PG` are the two monomials `∏ x^a`,
`∏ x^g`, `SA`, `SG` the two exponent totals. -/
def PA : List (ℝ × ℕ × ℕ) → ℝ
  | [] => 1
  | t :: l => t.1 ^ t.2.1 * PA l
def PG : List (ℝ × ℕ × ℕ) → ℝ
  | [] => 1
  | t :: l => t.1 ^ t.2.2 * PG l
def SA : List (ℝ × ℕ × ℕ) → ℕ
  | [] => 0
  | t :: l => t.2.1 + SA l
def SG : List (ℝ × ℕ × ℕ) → ℕ
  | [] => 0
  | t :: l => t.2.2 + SG l
/-- every tail sum of `g` is at most that of `a` -/
def Dom : List (ℝ × ℕ × ℕ) → Prop
  | [] => True
  | t :: l => SG (t :: l) ≤ SA (t :: l) ∧ Dom l

theorem dom_self : ∀ (l : List (ℝ × ℕ × ℕ)), Dom l → SG l ≤ SA l := by
  intro l h
  cases l with
  | nil => exact le_rfl
  | cons _ _ => exact h.1

theorem PG_nonneg : ∀ (l : List (ℝ × ℕ × ℕ)), (∀ t ∈ l, 0 ≤ t.1) → 0 ≤ PG l := by
  intro l
  induction l with
  | nil => exact fun _ => zero_le_one
  | cons t l ih =>
    exact fun h => mul_nonneg (pow_nonneg (h t List.mem_cons_self) _) (ih fun u hu => h u (List.mem_cons_of_mem _ hu))

/-- with every `x` of the list in `[0, y]` the surplus `Σa − Σg` of exponents is paid for in powers of `y` -/
theorem majorization_aux : ∀ (l : List (ℝ × ℕ × ℕ)) (y : ℝ), (∀ t ∈ l, 0 ≤ t.1 ∧ t.1 ≤ y) →
    l.Pairwise (fun t u => u.1 ≤ t.1) → Dom l → PA l ≤ y ^ (SA l - SG l) * PG l := by
  intro l
  induction l with
  | nil =>
    intro y _ _ _
    show (1 : ℝ) ≤ y ^ 0 * 1
    rw [pow_zero, one_mul]
  | cons t l ih =>
    intro y hb hs hdom
    obtain ⟨x, a, g⟩ := t
    rw [List.pairwise_cons] at hs
    obtain ⟨hx0, hxy⟩ := hb (x, a, g) List.mem_cons_self
    have hbl : ∀ u ∈ l, 0 ≤ u.1 ∧ u.1 ≤ x := fun u hu => ⟨(hb u (List.mem_cons_of_mem _ hu)).1, hs.1 u hu⟩
    have hdl := dom_self l hdom.2
    have hd : g + SG l ≤ a + SA l := hdom.1
    have hrest : 0 ≤ x ^ g * PG l := PG_nonneg ((x, a, g) :: l) fun u hu => (hb u hu).1
    have hexp : a + (SA l - SG l) = a + SA l - (g + SG l) + g :=
      Nat.add_right_cancel (m := SG l) (by rw [Nat.add_assoc, Nat.sub_add_cancel hdl, Nat.add_assoc, Nat.sub_add_cancel hd])
    -- the tail costs `x^(SA l - SG l)` by induction; all surplus so far is then raised from `x` to `y`
    calc x ^ a * PA l ≤ x ^ a * (x ^ (SA l - SG l) * PG l) :=
          mul_le_mul_of_nonneg_left (ih x hbl hs.2 hdom.2) (pow_nonneg hx0 _)
      _ = x ^ (a + SA l - (g + SG l)) * (x ^ g * PG l) := by
          rw [← mul_assoc, ← mul_assoc, ← pow_add, ← pow_add, hexp]
      _ ≤ y ^ (a + SA l - (g + SG l)) * (x ^ g * PG l) :=
          mul_le_mul_of_nonneg_right (pow_le_pow_left₀ hx0 hxy _) hrest

theorem majorization_nonneg (l : List (ℝ × ℕ × ℕ)) (h0 : ∀ t ∈ l, 0 ≤ t.1) (hs : l.Pairwise (fun t u => u.1 ≤ t.1))
    (hdom : Dom l) (heq : SA l = SG l) : PA l ≤ PG l := by
  cases l with
  | nil => exact le_rfl
  | cons t l =>
    have hb : ∀ u ∈ t :: l, 0 ≤ u.1 ∧ u.1 ≤ t.1 := fun u hu =>
      ⟨h0 u hu, (List.mem_cons.mp hu).elim (fun h => h ▸ le_rfl) ((List.pairwise_cons.mp hs).1 u)⟩
    have := majorization_aux (t :: l) t.1 hb hs hdom
    rwa [heq, Nat.sub_self, pow_zero, one_mul] at this

theorem majorization (l : List (ℝ × ℕ × ℕ)) (hpos : ∀ t ∈ l, 0 < t.1) (hs : l.Pairwise (fun t u => u.1 ≤ t.1))
    (hdom : Dom l) (heq : SA l = SG l) : PA l ≤ PG l :=
  majorization_nonneg l (fun t ht => (hpos t ht).le) hs hdom heq

section polytope
variable (z : Finset ℕ → ℕ)

/-- `∏_k x_{σ_k}^{z(S_k) − z(S_{k+1})}`, `S_k` the edges not yet removed before step `k` -/
noncomputable def tropPow (x : ℕ → ℝ) : List ℕ → ℝ
  | [] => 1
  | e :: rest => x e ^ (z (insert e rest.toFinset) - z rest.toFinset) * tropPow x rest

noncomputable def triples (x : ℕ → ℝ) (a : ℕ → ℕ) : List ℕ → List (ℝ × ℕ × ℕ)
  | [] => []
  | e :: rest => (x e, a e, z (insert e rest.toFinset) - z rest.toFinset) :: triples x a rest

variable {z}

theorem PG_triples (x : ℕ → ℝ) (a : ℕ → ℕ) : ∀ σ : List ℕ, PG (triples z x a σ) = tropPow z x σ := by
  intro σ
  induction σ with
  | nil => rfl
  | cons e rest ih => rw [triples, PG, tropPow, ih]

theorem PA_triples (x : ℕ → ℝ) (a : ℕ → ℕ) : ∀ σ : List ℕ, PA (triples z x a σ) = (σ.map fun e => x e ^ a e).prod := by
  intro σ
  induction σ with
  | nil => rfl
  | cons e rest ih => rw [triples, PA, List.map_cons, List.prod_cons, ih]

theorem SA_triples (x : ℕ → ℝ) (a : ℕ → ℕ) : ∀ σ : List ℕ, SA (triples z x a σ) = (σ.map a).sum := by
  intro σ
  induction σ with
  | nil => rfl
  | cons e rest ih => rw [triples, SA, List.map_cons, List.sum_cons, ih]

theorem SG_triples (hz0 : z ∅ = 0) (hzm : ∀ A e, z A ≤ z (insert e A)) (x : ℕ → ℝ) (a : ℕ → ℕ) :
    ∀ σ : List ℕ, SG (triples z x a σ) = z σ.toFinset := by
  intro σ
  induction σ with
  | nil => exact hz0.symm
  | cons e rest ih =>
    rw [triples, SG, ih, List.toFinset_cons]
    exact Nat.sub_add_cancel (hzm rest.toFinset e)

theorem map_fst_triples (x : ℕ → ℝ) (a : ℕ → ℕ) : ∀ σ : List ℕ, (triples z x a σ).map (·.1) = σ.map x := by
  intro σ
  induction σ with
  | nil => rfl
  | cons e rest ih => rw [triples, List.map_cons, List.map_cons, ih]

theorem dom_triples (hz0 : z ∅ = 0) (hzm : ∀ A e, z A ≤ z (insert e A)) (x : ℕ → ℝ) (a : ℕ → ℕ) :
    ∀ σ : List ℕ, (∀ k, z (σ.drop k).toFinset ≤ ((σ.drop k).map a).sum) → Dom (triples z x a σ) := by
  intro σ
  induction σ with
  | nil => exact fun _ => trivial
  | cons e rest ih =>
    intro h
    refine ⟨?_, ih fun k => h (k + 1)⟩
    rw [← triples, SG_triples hz0 hzm, SA_triples]
    exact h 0

theorem polytope_max_nonneg (hz0 : z ∅ = 0) (hzm : ∀ A e, z A ≤ z (insert e A)) (x : ℕ → ℝ) (σ : List ℕ)
    (hx : ∀ e ∈ σ, 0 ≤ x e) (hsorted : σ.Pairwise fun p q => x q ≤ x p) (a : ℕ → ℕ)
    (hdom : ∀ k, z (σ.drop k).toFinset ≤ ((σ.drop k).map a).sum) (htot : (σ.map a).sum = z σ.toFinset) :
    (σ.map fun e => x e ^ a e).prod ≤ tropPow z x σ := by
  rw [← PA_triples (z := z) x a σ, ← PG_triples x a σ]
  apply majorization_nonneg _ _ _ (dom_triples hz0 hzm x a σ hdom)
  · rw [SA_triples, SG_triples hz0 hzm, htot]
  · intro t ht
    have : t.1 ∈ σ.map x := map_fst_triples (z := z) x a σ ▸ List.mem_map_of_mem (f := fun u : ℝ × ℕ × ℕ => u.1) ht
    obtain ⟨e, he, hte⟩ := List.mem_map.mp this
    exact hte ▸ hx e he
  · have : (σ.map x).Pairwise fun p q => q ≤ p := List.pairwise_map.mpr hsorted
    rw [← map_fst_triples (z := z) x a σ] at this
    exact List.pairwise_map.mp this

theorem polytope_max (hz0 : z ∅ = 0) (hzm : ∀ A e, z A ≤ z (insert e A)) (x : ℕ → ℝ) (σ : List ℕ)
    (hpos : ∀ e ∈ σ, 0 < x e) (hsorted : σ.Pairwise fun p q => x q ≤ x p) (a : ℕ → ℕ)
    (hdom : ∀ k, z (σ.drop k).toFinset ≤ ((σ.drop k).map a).sum) (htot : (σ.map a).sum = z σ.toFinset) :
    (σ.map fun e => x e ^ a e).prod ≤ tropPow z x σ :=
  polytope_max_nonneg hz0 hzm x σ (fun e he => (hpos e he).le) hsorted a hdom htot

theorem tropPow_add {z₁ z₂ : Finset ℕ → ℕ} (h₁ : ∀ A e, z₁ A ≤ z₁ (insert e A)) (h₂ : ∀ A e, z₂ A ≤ z₂ (insert e A)) (x : ℕ → ℝ) :
    ∀ σ : List ℕ, tropPow (fun A => z₁ A + z₂ A) x σ = tropPow z₁ x σ * tropPow z₂ x σ := by
  intro σ
  induction σ with
  | nil => exact (one_mul 1).symm
  | cons e rest ih =>
    rw [tropPow, tropPow, tropPow, ih, ← mul_mul_mul_comm, ← pow_add,
      tsub_add_tsub_comm (h₁ rest.toFinset e) (h₂ rest.toFinset e)]

theorem sum_indicator (p : ℕ → Prop) [DecidablePred p] : ∀ (τ : List ℕ), τ.Nodup →
    (τ.map fun e => if p e then 1 else 0).sum = (τ.toFinset.filter p).card := by
  intro τ hτ
  rw [Finset.card_filter, List.sum_toFinset _ hτ]

theorem prod_le_tropPow (hz0 : z ∅ = 0) (hzm : ∀ A e, z A ≤ z (insert e A)) (x : ℕ → ℝ) (σ : List ℕ) (hσ : σ.Nodup)
    (hx : ∀ e ∈ σ, 0 ≤ x e) (hsorted : σ.Pairwise fun p q => x q ≤ x p) (C : Finset ℕ) (hCS : C ⊆ σ.toFinset)
    (hdom : ∀ A, A ⊆ σ.toFinset → z A ≤ (A ∩ C).card) (htot : C.card = z σ.toFinset) :
    ∏ e ∈ C, x e ≤ tropPow z x σ := by
  have hsum : ∀ τ : List ℕ, τ.Nodup → (τ.map fun e => if e ∈ C then 1 else 0).sum = (τ.toFinset ∩ C).card :=
    fun τ hτ => by rw [sum_indicator (· ∈ C) τ hτ, Finset.filter_mem_eq_inter]
  have := polytope_max_nonneg hz0 hzm x σ hx hsorted (fun e => if e ∈ C then 1 else 0)
    (fun k => by
      rw [hsum _ (hσ.sublist (List.drop_sublist k σ))]
      exact hdom _ fun y hy => List.mem_toFinset.mpr (List.mem_of_mem_drop (List.mem_toFinset.mp hy)))
    (by rw [hsum σ hσ, Finset.inter_eq_right.mpr hCS, htot])
  refine le_trans (le_of_eq ?_) this
  rw [← List.prod_toFinset _ hσ, ← Finset.prod_subset hCS fun e _ he => by rw [if_neg he, pow_zero]]
  exact Finset.prod_congr rfl fun e he => by rw [if_pos he, pow_one]

end polytope
end Momtrop.C07
