import Momtrop.Model.Sampling
/-!
# C06 — edge selection inverts the tropical edge distribution and is total

Law-free (`S`) theorems about `sampleEdge` (the model of `sample_edge` **after** fix `46483d2`): they hold
for every `Scalar α`, in particular for IEEE `f64` with its rounded cumulative sums. Core Lean only.
-/
namespace Momtrop.C06
open Scalar
variable {α : Type} [Scalar α]

/-- running sum after scanning the edges `pre` starting from `c` (the code's `cum_sum += p_e`) -/
def cumAfter (T : STable α) (g : Mask) (pre : List Nat) (c : α) : α :=
  pre.foldl (fun acc e => acc + edgeProb T g e) c

theorem cumAfter_append_singleton (T : STable α) (g : Mask) (pre : List Nat) (e : Nat) (c : α) :
    cumAfter T g (pre ++ [e]) c = cumAfter T g pre c + edgeProb T g e := by
  simp [cumAfter]

/-- No running sum along `pre`, started from `c`, reaches `u`. -/
def Misses (T : STable α) (u : α) (g : Mask) (pre : List Nat) (c : α) : Prop :=
  ∀ pre' e' post', pre = pre' ++ e' :: post' → geB (cumAfter T g (pre' ++ [e']) c) u = false

theorem misses_nil (T : STable α) (u : α) (g : Mask) (c : α) : Misses T u g [] c :=
  fun pre' _ _ h => by cases pre' <;> cases h

theorem misses_cons (T : STable α) (u : α) (g : Mask) (a : Nat) (pre : List Nat) (c : α) :
    Misses T u g (a :: pre) c ↔
      geB (c + edgeProb T g a) u = false ∧ Misses T u g pre (c + edgeProb T g a) := by
  constructor
  · exact fun h => ⟨h [] a pre rfl, fun pre' e' post' hp => h (a :: pre') e' post' (congrArg (a :: ·) hp)⟩
  · rintro ⟨ha, h⟩ pre' e' post' hp
    cases pre' with
    | nil => cases hp; exact ha
    | cons b pre'' => cases hp; exact h pre'' e' post' rfl

/-- What the scan returns: either the first edge (in list order) at which the running sum reaches `u`, or — when no
running sum reaches `u` and `u ≤ 1` — the fallback `last` / the last edge scanned. -/
theorem scan_spec (T : STable α) (u : α) (g : Mask) :
    ∀ (es : List Nat) (c : α) (last r : Option (Nat × Mask)), scanEdges T u g es c last = r →
      (∃ pre e post, es = pre ++ e :: post ∧ r = some (e, Mask.pop g e) ∧
          geB (cumAfter T g (pre ++ [e]) c) u = true ∧
          ∀ pre' e' post', pre = pre' ++ e' :: post' → geB (cumAfter T g (pre' ++ [e']) c) u = false)
      ∨ ((∀ pre' e' post', es = pre' ++ e' :: post' → geB (cumAfter T g (pre' ++ [e']) c) u = false) ∧
          r = if leB u (one : α) then (match es.getLast? with | some e => some (e, Mask.pop g e) | none => last)
              else none) := by
  intro es
  induction es with
  | nil => exact fun c last r h => .inr ⟨misses_nil T u g c, h.symm⟩
  | cons e es ih =>
    intro c last r h
    simp only [scanEdges] at h
    by_cases hge : geB (c + edgeProb T g e) u = true
    · rw [if_pos hge] at h
      exact .inl ⟨[], e, es, rfl, h.symm, hge, misses_nil T u g c⟩
    · rw [if_neg hge] at h
      have hmiss := fun pre hpre => (misses_cons T u g e pre c).mpr ⟨Bool.eq_false_iff.mpr hge, hpre⟩
      rcases ih _ _ r h with ⟨pre, e2, post, rfl, hr, hhit, hpre⟩ | ⟨hes, hr⟩
      · exact .inl ⟨e :: pre, e2, post, rfl, hr, hhit, hmiss pre hpre⟩
      · refine .inr ⟨hmiss es hes, hr.trans ?_⟩
        -- the fallback passed down is `e`, which is the last edge exactly when `es` is empty
        rw [List.getLast?_cons]
        cases es.getLast? <;> rfl

/-- law-free converse of `scan_spec`: the selected edge is determined by the comparisons -/
theorem scan_hit (T : STable α) (u : α) (g : Mask) :
    ∀ (pre : List Nat) (e : Nat) (post : List Nat) (c : α) (last : Option (Nat × Mask)),
      (∀ pre' e' post', pre = pre' ++ e' :: post' → geB (cumAfter T g (pre' ++ [e']) c) u = false) →
      geB (cumAfter T g (pre ++ [e]) c) u = true →
      scanEdges T u g (pre ++ e :: post) c last = some (e, Mask.pop g e) := by
  intro pre
  induction pre with
  | nil =>
    intro e post c last _ hhit
    simp only [List.nil_append]
    exact if_pos hhit
  | cons a pre ih =>
    intro e post c last hmiss hhit
    obtain ⟨ha, hpre⟩ := (misses_cons T u g a pre c).mp hmiss
    simp only [List.cons_append, scanEdges]
    rw [if_neg (Bool.eq_false_iff.mp ha)]
    exact ih e post _ _ hpre hhit

theorem sampleEdge_some (T : STable α) (u : α) (g : Mask) (e : Nat) (g' : Mask)
    (h : sampleEdge T u g = some (e, g')) :
    g' = Mask.pop g e ∧ ∃ pre post, Mask.edges T.numEdges g = pre ++ e :: post ∧ Misses T u g pre zero ∧
      (geB (cumAfter T g (pre ++ [e]) zero) u = true ∨ (post = [] ∧ leB u (one : α) = true)) := by
  rcases scan_spec T u g _ zero none _ h with ⟨pre, e2, post, hes, hr, hhit, hmiss⟩ | ⟨hmiss, hr⟩
  · cases hr
    exact ⟨rfl, pre, post, hes, hmiss, .inl hhit⟩
  · -- no running sum reached `u`: the result is the last edge, provided `u ≤ 1`
    by_cases hu : leB u (one : α) = true
    · rw [if_pos hu] at hr
      cases hl : (Mask.edges T.numEdges g).getLast? with
      | none => rw [hl] at hr; cases hr
      | some x =>
        rw [hl] at hr
        cases hr
        obtain ⟨pre, hpre⟩ := List.getLast?_eq_some_iff.mp hl
        refine ⟨rfl, pre, [], hpre, fun pre' e' post' hp => ?_, .inr ⟨rfl, hu⟩⟩
        exact hmiss pre' e' (post' ++ [e]) (by rw [hpre, hp, List.append_assoc]; rfl)
    · rw [if_neg hu] at hr; cases hr

theorem sampleEdge_sound (T : STable α) (u : α) (g : Mask) (e : Nat) (g' : Mask)
    (h : sampleEdge T u g = some (e, g')) : e ∈ Mask.edges T.numEdges g ∧ g' = Mask.pop g e := by
  obtain ⟨hg', pre, post, hes, _⟩ := sampleEdge_some T u g e g' h
  exact ⟨hes ▸ List.mem_append_right pre List.mem_cons_self, hg'⟩

/-- the selected edge is the first in index order whose running sum reaches `u`, or else the last edge of the subgraph
(the rounding-shortfall fallback of fix `46483d2`) -/
theorem sampleEdge_first (T : STable α) (u : α) (g : Mask) (e : Nat) (g' : Mask)
    (h : sampleEdge T u g = some (e, g')) :
    ∃ pre post, Mask.edges T.numEdges g = pre ++ e :: post ∧
      (∀ pre' e' post', pre = pre' ++ e' :: post' → geB (cumAfter T g (pre' ++ [e']) zero) u = false) ∧
      (geB (cumAfter T g (pre ++ [e]) zero) u = true ∨ (post = [] ∧ leB u (one : α) = true)) :=
  (sampleEdge_some T u g e g' h).2

/-- no `panic!` for a non-empty subgraph and `u ≤ 1` under the scalar's own comparison: for `f64` every `u ∈ [0,1)`, also
one ulp below 1; only NaN and `u > 1` are excluded -/
theorem sampleEdge_total (T : STable α) (u : α) (g : Mask)
    (hne : Mask.edges T.numEdges g ≠ []) (hu : leB u (one : α) = true) :
    (sampleEdge T u g).isSome = true := by
  rcases scan_spec T u g (Mask.edges T.numEdges g) zero none _ rfl with ⟨_, _, _, _, hr, _, _⟩ | ⟨_, hr⟩
  · rw [sampleEdge, hr]; rfl
  · rw [sampleEdge, hr, if_pos hu, List.getLast?_eq_some_getLast hne]; rfl

end Momtrop.C06

/-! ## `chooseEdge`: `sampleEdge` behind the single-edge shortcut -/
namespace Momtrop.C14
variable {α : Type} [Scalar α]

theorem chooseEdge_some (T : STable α) (xs : List α) (g : Mask) (cnt : Nat) (e : Nat) (g' : Mask) (cnt' : Nat)
    (h : chooseEdge T xs g cnt = some (e, g', cnt')) :
    e ∈ Mask.edges T.numEdges g ∧ g' = Mask.pop g e ∧ cnt' = if Mask.hasOneEdge g then cnt else cnt + 1 := by
  revert h
  fun_cases chooseEdge T xs g cnt
  case case1 h1 e0 he0 =>
    intro h
    cases h
    exact ⟨List.mem_of_head? he0, rfl, (if_pos h1).symm⟩
  case case2 => intro h; cases h
  case case3 => intro h; cases h
  case case4 h1 u _ =>
    intro h
    obtain ⟨⟨e2, g2⟩, hs, heq⟩ := Option.map_eq_some_iff.mp h
    cases heq
    obtain ⟨hmem, hpop⟩ := C06.sampleEdge_sound T u g e2 g2 hs
    exact ⟨hmem, hpop, (if_neg h1).symm⟩

theorem chooseEdge_congr (T : STable α) (xs ys : List α) (g : Mask) (cnt : Nat)
    (h : Mask.hasOneEdge g = false → xs[cnt]? = ys[cnt]?) : chooseEdge T xs g cnt = chooseEdge T ys g cnt := by
  unfold chooseEdge
  by_cases h1 : Mask.hasOneEdge g = true
  · rw [if_pos h1, if_pos h1]
  · rw [if_neg h1, if_neg h1, h (Bool.eq_false_iff.mpr h1)]

end Momtrop.C14
