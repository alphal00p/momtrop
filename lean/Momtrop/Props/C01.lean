import Momtrop.Props.C10Law
import Momtrop.Props.C11
import Momtrop.Props.C13Joint
import Momtrop.Props.C14
import Momtrop.Props.C01Table
/-!
# C01 — the estimator is unbiased (partial: the ingredients of the derivation)

The property itself is **not** proved: Schwinger parametrisation (with the Gaussian integral) is cited, and that the regions of the sectors
tile the domain of the Feynman parameters is not formalised. Proved: Borinsky's sector density `x^{ν-1} U_tr^{-D/2} V_tr^{-dod}/I_tr` in every
sector (`C01Sector`, `C01Table`), its `U_tr`, `V_tr` being the maximal monomials (C07, up to the cited matrix-tree and 2-forest formulas);
Box–Muller (`C13.boxMuller_law`), the Gaussian law of the momenta (`C10.momenta_law`), the inverse-CDF lemma (for an exact quantile
function). `reduction` collects the ingredients.
-/
namespace Momtrop.C01
open Matrix

variable {E L : ℕ}

/-- `k = c·Q⁻ᵀ q − L⁻¹u` has linear part `c·Q⁻ᵀ` in each of the `D` components, so `|det| = c^L · U^{-1/2}` per component (`U = det L`,
`c² = V/2λ`): the `U^{-D/2}` and the `(V/2λ)^{DL/2}` of the derivation. -/
theorem det_momentum_map (Lm Qti : Matrix (Fin L) (Fin L) ℝ) (c : ℝ) (hQ : Qtiᵀ * Lm * Qti = 1) :
    (c • Qti).det ^ 2 * Lm.det = c ^ (2 * L) :=
  C10.det_whitening Lm Qti c hQ

/-- The ingredients of the unbiasedness derivation, each a theorem of another module: `reads`, `probs`, `rescale`, `gauss`, `gaussLaw` about
the model's functions, the others about real functions and matrices in general. -/
structure Reduction : Prop where
  /-- the three coordinate groups are read disjointly: `2E−2` + 1 + `DL(+1)` -/
  reads : ∀ {α : Type} [Scalar α] (draw : α → α → Option α) (T : STable α) (D : Nat) (xs : List α)
      (S : List (List Int)) (ed : List (Option α × Vec α)) (st : Settings α) (res : SampleResult α),
      1 ≤ T.numEdges → sampleCore draw T D xs S ed st = some (.ok res) →
      res.reads + 1 = 2 * T.numEdges + T.dimension * T.numLoops + (T.dimension * T.numLoops) % 2
  probs : ∀ (omega : Mask → ℝ) (n : Nat) (g : Mask), g < 2 ^ n → g ≠ 0 → Jval omega n g ≠ 0 →
      ((Mask.edges n g).map fun e => Jval omega n (Mask.pop g e) / Jval omega n g / omega (Mask.pop g e)).sum = 1
  rescale : ∀ (T : STable ℝ) (uTr vTr : ℝ) (loops : ℕ), T.negHalfD = -T.halfD →
      T.scaleDen = T.halfD * loops + T.dod → 0 < uTr → 0 < vTr → T.halfD * loops + T.dod ≠ 0 →
      (scalingOf T uTr vTr ^ loops * uTr) ^ T.halfD * (scalingOf T uTr vTr * vTr) ^ T.dod = 1
  gauss : ∀ (a b : ℝ), 0 < a → a ≤ 1 → (boxMuller a b).1 ^ 2 + (boxMuller a b).2 ^ 2 = -2 * Real.log a
  gaussLaw : ∀ (f : ℝ × ℝ → ENNReal), Measurable f →
      ∫⁻ p in Set.Ioo (0:ℝ) 1 ×ˢ Set.Ioo (0:ℝ) 1, f (boxMuller p.1 p.2) = ∫⁻ z, f z * ENNReal.ofReal (C13.gauss2 z)
  /-- all `m = D·L` Gaussian numbers of a sample, in the model's numbering, are iid `N(0,1)` for uniform independent coordinates -/
  gaussJoint : ∀ (n m : ℕ) (h : m ≤ 2 * n),
      MeasureTheory.Measure.map
        (fun (p : Fin n → ℝ × ℝ) (j : Fin m) => C13.pick (C13.bm (p (C13.numbering n m h j).1)) (C13.numbering n m h j).2)
        ((MeasureTheory.volume : MeasureTheory.Measure (Fin n → ℝ × ℝ)).restrict (Set.univ.pi fun _ => C13.sq))
      = MeasureTheory.Measure.pi fun _ : Fin m => ProbabilityTheory.gaussianReal 0 1
  icdf : ∀ (F F' G : ℝ → ℝ), (∀ x ∈ Set.Ioi (0:ℝ), HasDerivWithinAt F (F' x) (Set.Ioi 0) x) → Set.InjOn F (Set.Ioi 0) →
      F '' Set.Ioi 0 = Set.Ioo 0 1 → (∀ p ∈ Set.Ioo (0:ℝ) 1, G p ∈ Set.Ioi (0:ℝ) ∧ F (G p) = p) → ∀ f : ℝ → ENNReal,
      ∫⁻ p in Set.Ioo (0:ℝ) 1, f (G p) = ∫⁻ x in Set.Ioi (0:ℝ), ENNReal.ofReal (_root_.abs (F' x)) * f x
  /-- one step of the sector sample -/
  xiLaw : ∀ (c ω : ℝ), 0 < c → 0 < ω → ∀ f : ℝ → ENNReal,
      ∫⁻ ξ in Set.Ioo (0:ℝ) 1, f (c * ξ ^ (1 / ω)) = ∫⁻ y in Set.Ioo (0:ℝ) c, ENNReal.ofReal (ω * y ^ (ω - 1) / c ^ ω) * f y
  /-- the weighted propagator sum at the returned momenta -/
  momenta : ∀ {E L : ℕ} (S : Matrix (Fin E) (Fin L) ℝ) (x p : Fin E → ℝ) (q : Fin L → ℝ) (c : ℝ)
      (Li Qti : Matrix (Fin L) (Fin L) ℝ), lMat S x * Li = 1 → Qtiᵀ * lMat S x * Qti = 1 →
      (S *ᵥ (c • (Qti *ᵥ q) - Li *ᵥ uVec S x p) + p) ⬝ᵥ (diagonal x *ᵥ (S *ᵥ (c • (Qti *ᵥ q) - Li *ᵥ uVec S x p) + p))
        = c ^ 2 * (q ⬝ᵥ q) + C09.Vabs S x p Li
  momentaLaw : ∀ {L : ℕ} (Lm Qti Li : Matrix (Fin L) (Fin L) ℝ) (c : ℝ), 0 < c → Qtiᵀ * Lm * Qti = 1 → Lmᵀ = Lm →
      ∀ (u : Fin L → ℝ) (f : (Fin L → ℝ) → ENNReal), Measurable f →
      ∫⁻ q, f (c • (Qti *ᵥ q) - Li *ᵥ u) * ENNReal.ofReal (Real.exp (-(q ⬝ᵥ q) / 2))
        = ENNReal.ofReal (Real.sqrt Lm.det / c ^ L) *
          ∫⁻ k, f k * ENNReal.ofReal (Real.exp (-((k + Li *ᵥ u) ⬝ᵥ (Lm *ᵥ (k + Li *ᵥ u))) / (2 * c ^ 2)))
  jac : ∀ {L : ℕ} (Lm Qti : Matrix (Fin L) (Fin L) ℝ) (c : ℝ), Qtiᵀ * Lm * Qti = 1 →
      (c • Qti).det ^ 2 * Lm.det = c ^ (2 * L)
  gauge : ∀ (halfD dod s U V Utr Vtr : ℝ) (L : ℕ), 0 < s → 0 < U → 0 < V → 0 < Utr → 0 < Vtr →
      (s ^ L * Utr) ^ halfD * (s * Vtr) ^ dod = 1 →
      ((1 : ℝ) / (s ^ L * U)) ^ halfD * ((1 : ℝ) / (s * V)) ^ dod = (Utr / U) ^ halfD * (Vtr / V) ^ dod

theorem reduction : Reduction where
  reads := C14.sample_reads_dim
  probs := C04.edge_probs_sum_one
  rescale := C07.rescaling_normalises
  gauss := C13.box_muller_radius
  gaussLaw := C13.boxMuller_law_model
  gaussJoint := C13.components_iid
  icdf := inverse_cdf_law
  xiLaw := xi_power_law
  momenta := C10.propSum_at_sample
  momentaLaw := C10.momenta_law
  jac := det_momentum_map
  gauge := C11.gauge_invariant

end Momtrop.C01
