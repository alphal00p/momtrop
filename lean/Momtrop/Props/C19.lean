import Momtrop.Props.C14
/-!
# C19 — user precision is preserved: only the Gamma draw narrows to `f64`

The model's arithmetic interface `Scalar` has **no** `to_f64`: every definition of the sampling model is accepted by Lean with
that interface alone, so no narrowing is expressible in them. The only narrowing of the real code is inside the Gamma draw,
which `sampleCore` receives as the parameter `draw`. The theorems state how `draw` is used: once, on `(from_f64(dod), xs[2E−2])`.
-/
namespace Momtrop.C19
open Scalar
variable {α : Type} [Scalar α]

/-- the sample depends on the narrowing draw only through its value at `(dod, coordinate 2E−2)` -/
theorem narrowing_only_in_draw (draw draw' : α → α → Option α) (T : STable α) (D : Nat) (xs : List α)
    (S : List (List Int)) (ed : List (Option α × Vec α)) (st : Settings α) (hE : 1 ≤ T.numEdges)
    (h : ∀ p, xs[2 * T.numEdges - 2]? = some p → draw T.dod p = draw' T.dod p) :
    sampleCore draw T D xs S ed st = sampleCore draw' T D xs S ed st := by
  apply C14.lambda_depends_one
  intro pr p hpr hp
  exact h p (Nat.eq_sub_of_add_eq (C14.permutahedral_reads T xs pr hE hpr) ▸ hp)

/-- everything before the draw — Feynman parameters, `L` matrix, its decomposition, hence `u` and `v` — does not involve
the draw: it is computed in the user's scalar type from the point and the table constants -/
theorem before_draw_independent (draw : α → α → Option α) (T : STable α) (D : Nat) (xs : List α)
    (S : List (List Int)) (ed : List (Option α × Vec α)) (st : Settings α) (res : SampleResult α)
    (h : sampleCore draw T D xs S ed st = some (.ok res)) :
    ∃ pr dec, permutahedral T xs = some pr ∧
      decompose (S.getD 0 []).length (lMatrix pr.x S) st.stability = .ok dec ∧ res.u = dec.determinant ∧
      res.v = vPolynomial pr.x (uVectors D pr.x S (ed.map (·.2))) dec.inverse (S.getD 0 []).length (ed.map (·.2))
                (ed.map fun d => match d.1 with | some m => m | none => zero) := by
  obtain ⟨pr, dec, p, lam, q, hpr, hdec, _, _, _, rfl⟩ := (sampleCore_ok_iff draw T D xs S ed st res).mp h
  exact ⟨pr, dec, hpr, hdec, rfl, rfl⟩

end Momtrop.C19
