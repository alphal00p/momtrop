import Momtrop.Props.C07
import Momtrop.Props.C09
/-!
# C11 — jacobian = normalisation × U^(−D/2) × V^(−dod) in the rescaled gauge
-/
namespace Momtrop.C11
open Scalar

section S
variable {α : Type} [Scalar α]
-- for abstract `α` the only `Mul α` is the one of `Scalar α`; found first here, it spares the search through all that Mathlib derives a `Mul` from
attribute [local instance 1100] Scalar.toMul Scalar.toDiv

/-- what an `Ok` sample returns (`sampling.rs:113-145`), for every scalar type: `u_trop = v_trop = one`, `u` the determinant of the `L` matrix
decomposition, the jacobian in this operation order with `halfD = from_f64(D as f64 / 2.0)` (no integer division) -/
theorem jacobian_def (draw : α → α → Option α) (T : STable α) (D : Nat) (xs : List α)
    (S : List (List Int)) (ed : List (Option α × Vec α)) (st : Settings α) (res : SampleResult α)
    (h : sampleCore draw T D xs S ed st = some (.ok res)) :
    res.uTrop = one ∧ res.vTrop = one ∧
    res.jacobian = powf (res.uTrop / res.u) T.halfD * powf (res.vTrop / res.v) T.dod * T.cached ∧
    ∃ pr dec, permutahedral T xs = some pr ∧
      decompose (S.getD 0 []).length (lMatrix pr.x S) st.stability = .ok dec ∧ res.u = dec.determinant := by
  obtain ⟨pr, dec, _, _, _, hpr, hdec, -, -, -, rfl⟩ := (sampleCore_ok_iff ..).mp h
  obtain ⟨-, -, hu1, hv1⟩ := C07.rescaling_common T xs pr hpr
  exact ⟨hu1, hv1, rfl, pr, dec, hpr, hdec, rfl⟩

end S

section R

/-- the same in exact arithmetic, with `u_trop = v_trop = 1` -/
theorem jacobian_rescaled_gauge (halfD dod cached u v : ℝ) (hu : 0 < u) (hv : 0 < v) :
    powf ((one : ℝ) / u) halfD * powf ((one : ℝ) / v) dod * cached = cached * u ^ (-halfD) * v ^ (-dod) := by
  simp only [powf_real, one_real, one_div]
  rw [Real.inv_rpow hu.le, Real.inv_rpow hv.le, Real.rpow_neg hu.le, Real.rpow_neg hv.le]
  exact (mul_rotate _ _ _).symm

/-- gauge invariance: under the common rescaling `x ↦ s·x` the Symanzik and tropical values become `s^L U`, `s V`, `s^L U_tr`, `s V_tr`; if `s`
normalises the tropical ones (`C07.rescaling_normalises`), the weight computed in the rescaled gauge is the one at the unrescaled parameters -/
theorem gauge_invariant (halfD dod s U V Utr Vtr : ℝ) (L : ℕ)
    (hs : 0 < s) (hU : 0 < U) (hV : 0 < V) (hUt : 0 < Utr) (hVt : 0 < Vtr)
    (hnorm : (s ^ L * Utr) ^ halfD * (s * Vtr) ^ dod = 1) :
    ((1 : ℝ) / (s ^ L * U)) ^ halfD * ((1 : ℝ) / (s * V)) ^ dod = (Utr / U) ^ halfD * (Vtr / V) ^ dod := by
  -- `U_tr/U = 1/(s^L U) · (s^L U_tr)` and `V_tr/V = 1/(sV) · (s V_tr)`: the second factors multiply to `hnorm`
  have key : ∀ a b c r : ℝ, 0 < a → 0 < b → 0 < c → (b / c) ^ r = (1 / (a * c)) ^ r * (a * b) ^ r := by
    intro a b c r ha hb hc
    rw [← Real.mul_rpow (one_div_pos.mpr (mul_pos ha hc)).le (mul_pos ha hb).le, one_div_mul_eq_div,
      mul_div_mul_left _ _ ha.ne']
  rw [key (s ^ L) Utr U halfD (pow_pos hs L) hUt hU, key s Vtr V dod hs hVt hV, mul_mul_mul_comm, hnorm, mul_one]

end R

/-! Homogeneity in the Feynman parameters: why `gauge_invariant` may write `s^L U`, `s V` for the Symanzik values at the rescaled parameters. -/

open Matrix

variable {E L : ℕ}

theorem lMat_smul (S : Matrix (Fin E) (Fin L) ℝ) (x : Fin E → ℝ) (s : ℝ) :
    lMat S (fun e => s * x e) = s • lMat S x := by
  ext i j
  rw [lMat_apply, Matrix.smul_apply, lMat_apply, smul_eq_mul, Finset.mul_sum]
  apply Finset.sum_congr rfl; intro e _; ring

/-- `U = det L` is homogeneous of degree `L`, the number of loops -/
theorem det_lMat_smul (S : Matrix (Fin E) (Fin L) ℝ) (x : Fin E → ℝ) (s : ℝ) :
    (lMat S (fun e => s * x e)).det = s ^ L * (lMat S x).det := by
  rw [lMat_smul, det_smul, Fintype.card_fin]

theorem uVec_smul (S : Matrix (Fin E) (Fin L) ℝ) (x p : Fin E → ℝ) (s : ℝ) :
    uVec S (fun e => s * x e) p = s • uVec S x p := by
  funext l
  rw [uVec_apply, Pi.smul_apply, uVec_apply, smul_eq_mul, Finset.mul_sum]
  apply Finset.sum_congr rfl; intro e _; ring

/-- `V` is homogeneous of degree 1 (`s⁻¹·L⁻¹` is the inverse of the rescaled `L`: `lMat_smul_inv`) -/
theorem Vabs_smul (S : Matrix (Fin E) (Fin L) ℝ) (x p : Fin E → ℝ) (Li : Matrix (Fin L) (Fin L) ℝ) (s : ℝ) (hs : s ≠ 0) :
    C09.Vabs S (fun e => s * x e) p (s⁻¹ • Li) = s * C09.Vabs S x p Li := by
  have h1 : p ⬝ᵥ (diagonal (fun e => s * x e) *ᵥ p) = s * (p ⬝ᵥ (diagonal x *ᵥ p)) := by
    rw [dotProduct_diagonal_mulVec, dotProduct_diagonal_mulVec, Finset.mul_sum]
    exact Finset.sum_congr rfl fun e _ => mul_assoc _ _ _
  simp only [C09.Vabs, uVec_smul, h1, smul_mulVec, mulVec_smul, smul_dotProduct, dotProduct_smul, smul_eq_mul,
    mul_inv_cancel_left₀ hs, mul_sub]

theorem lMat_smul_inv (S : Matrix (Fin E) (Fin L) ℝ) (x : Fin E → ℝ) (Li : Matrix (Fin L) (Fin L) ℝ) (s : ℝ)
    (hs : s ≠ 0) (hinv : lMat S x * Li = 1) : lMat S (fun e => s * x e) * (s⁻¹ • Li) = 1 := by
  simp only [lMat_smul, Matrix.smul_mul, Matrix.mul_smul, hinv, smul_smul, inv_mul_cancel₀ hs, one_smul]

end Momtrop.C11
