import Momtrop.Props.C13
import Momtrop.Proofs.Substitution
import Mathlib.Analysis.SpecialFunctions.PolarCoord
import Mathlib.MeasureTheory.Measure.Haar.Unique
/-!
# C13, the Box–Muller theorem itself

`boxMuller_law`: the two values produced from one uniform coordinate pair are independent standard normals, as an identity of integrals;
`boxMuller_law_model` for the model's own `boxMuller` at `α := ℝ`. Proof: polar coordinates (Mathlib), the substitutions `a = exp(−r²/2)`,
`b = (θ+π)/2π`, and invariance of Lebesgue measure under `z ↦ −z`.
-/
open MeasureTheory Real Set
open scoped ENNReal

namespace Momtrop.C13

/-- Box–Muller on a pair, in Mathlib's functions; it is the model's `boxMuller` at `α := ℝ` (`boxMuller_eq_bm`) -/
noncomputable def bm (p : ℝ × ℝ) : ℝ × ℝ :=
  (√(-2 * log p.1) * cos (2 * π * p.2), √(-2 * log p.1) * sin (2 * π * p.2))

noncomputable def gauss2 (z : ℝ × ℝ) : ℝ := (2 * π)⁻¹ * exp (-(z.1 ^ 2 + z.2 ^ 2) / 2)

theorem angle_subst (F : ℝ → ℝ≥0∞) :
    ∫⁻ b in Ioo (0:ℝ) 1, F (2 * π * b) = ∫⁻ θ in Ioo (-π) π, ENNReal.ofReal (2 * π)⁻¹ * F (θ + π) := by
  have h2 : (0:ℝ) < 2 * π := by positivity
  have h := lintegral_subst_inv (F := fun θ => (θ + π) / (2 * π)) (F' := fun _ => 1 / (2 * π)) (G := fun b => 2 * π * b - π)
    (s := Ioo (-π) π) (t := Ioo 0 1) measurableSet_Ioo
    (fun θ _ => (((hasDerivAt_id θ).add_const π).div_const (2 * π)).hasDerivWithinAt)
    (fun θ hθ => ⟨div_pos (neg_lt_iff_pos_add.mp hθ.1) h2, (div_lt_one h2).mpr (by linarith [hθ.2])⟩)
    (fun b hb => ⟨by linarith [mul_pos h2 hb.1], by linarith [mul_lt_of_lt_one_right h2 hb.2]⟩)
    ⟨fun θ _ => by simp only [mul_div_cancel₀ _ h2.ne', add_sub_cancel_right],
      fun b _ => by simp only [sub_add_cancel, mul_div_cancel_left₀ _ h2.ne']⟩ (fun θ => F (θ + π))
  simpa only [sub_add_cancel, one_div, abs_of_pos (inv_pos.mpr h2)] using h

theorem sqrt_log_exp {r : ℝ} (hr : 0 ≤ r) : √(-2 * log (exp (-(r ^ 2) / 2))) = r := by
  rw [log_exp, show -2 * (-(r ^ 2) / 2) = r ^ 2 by ring, sqrt_sq hr]

theorem radius_subst (H : ℝ → ℝ≥0∞) :
    ∫⁻ a in Ioo (0:ℝ) 1, H a = ∫⁻ r in Ioi (0:ℝ), ENNReal.ofReal (r * exp (-(r ^ 2) / 2)) * H (exp (-(r ^ 2) / 2)) := by
  have hlog : ∀ a ∈ Ioo (0:ℝ) 1, 0 < -2 * log a := fun a ha =>
    mul_pos_of_neg_of_neg (neg_neg_of_pos two_pos) (log_neg ha.1 ha.2)
  rw [lintegral_subst (F := fun r => exp (-(r ^ 2) / 2)) (F' := fun r => -r * exp (-(r ^ 2) / 2))
    (G := fun a => √(-2 * log a)) measurableSet_Ioi]
  · refine setLIntegral_congr_fun measurableSet_Ioi fun r (hr : 0 < r) => ?_
    simp only [abs_mul, abs_neg, abs_of_pos hr, abs_of_pos (exp_pos _)]
  · intro r _
    have h := ((hasDerivAt_pow 2 r).fun_neg.div_const 2).exp
    exact (h.congr_deriv (by ring)).hasDerivWithinAt
  · exact fun r (hr : 0 < r) =>
      ⟨exp_pos _, exp_lt_one_iff.mpr (div_neg_of_neg_of_pos (neg_neg_of_pos (pow_pos hr 2)) two_pos)⟩
  · exact fun a ha => sqrt_pos.mpr (hlog a ha)
  · refine ⟨fun r (hr : 0 < r) => sqrt_log_exp hr.le, fun a ha => ?_⟩
    show exp (-(√(-2 * log a) ^ 2) / 2) = a
    rw [sq_sqrt (hlog a ha).le, show -(-2 * log a) / 2 = log a by ring, exp_log ha.1]

/-- The point reflection `z ↦ -z` is there because the angle `2πb` of `bm` runs over `(0, 2π)`, that of `polarCoord` over `(-π, π)`, and
`θ ↦ θ + π` reflects the point. -/
theorem lintegral_polar_neg (g : ℝ × ℝ → ℝ≥0∞) (hg : Measurable g) :
    ∫⁻ z, g z = ∫⁻ r in Ioi (0:ℝ), ∫⁻ θ in Ioo (-π) π, ENNReal.ofReal r * g (-(r * cos θ), -(r * sin θ)) := by
  have hm : Measurable fun p : ℝ × ℝ => ENNReal.ofReal p.1 • g (-(polarCoord.symm p)) :=
    measurable_fst.ennreal_ofReal.mul (hg.comp continuous_polarCoord_symm.measurable.neg)
  -- `prod_restrict` and `lintegral_prod` ask for this, and the instance search reaches it only by way of Haar measures
  have : SigmaFinite (volume : Measure ℝ) := sigmaFinite_of_locallyFinite
  rw [← lintegral_neg_eq_self, ← lintegral_comp_polarCoord_symm, polarCoord_target, Measure.volume_eq_prod,
    ← Measure.prod_restrict, lintegral_prod _ hm.aemeasurable]
  simp only [polarCoord_symm_apply, Prod.neg_mk, smul_eq_mul]

theorem gauss2_polar (r θ : ℝ) : gauss2 (-(r * cos θ), -(r * sin θ)) = (2 * π)⁻¹ * exp (-(r ^ 2) / 2) := by
  unfold gauss2
  simp only [neg_sq, mul_pow, ← mul_add, cos_sq_add_sin_sq, mul_one]

theorem bm_meas : Measurable bm := by
  unfold bm
  fun_prop

theorem gauss2_meas : Measurable fun z : ℝ × ℝ => ENNReal.ofReal (gauss2 z) := by
  unfold gauss2
  fun_prop

/-- the Box–Muller theorem: uniform on the open unit square ↦ standard Gaussian on `ℝ²`, for every measurable test function `f ≥ 0` -/
theorem boxMuller_law (f : ℝ × ℝ → ℝ≥0∞) (hf : Measurable f) :
    ∫⁻ p in Ioo (0:ℝ) 1 ×ˢ Ioo (0:ℝ) 1, f (bm p) = ∫⁻ z, f z * ENNReal.ofReal (gauss2 z) := by
  have : SigmaFinite (volume : Measure ℝ) := sigmaFinite_of_locallyFinite
  rw [lintegral_polar_neg (fun z => f z * ENNReal.ofReal (gauss2 z)) (hf.mul gauss2_meas), Measure.volume_eq_prod,
    ← Measure.prod_restrict, lintegral_prod (fun p => f (bm p)) (hf.comp bm_meas).aemeasurable, radius_subst]
  -- both sides are integrals over the radius `r`; under it, `a = exp(−r²/2)` has `√(−2 ln a) = r`
  refine setLIntegral_congr_fun measurableSet_Ioi fun r (hr : 0 < r) => ?_
  simp only [bm, sqrt_log_exp hr.le]
  rw [angle_subst fun t => f (r * cos t, r * sin t), ← lintegral_const_mul' _ _ ENNReal.ofReal_ne_top]
  refine lintegral_congr fun θ => ?_
  rw [gauss2_polar, cos_add_pi, sin_add_pi, mul_neg r, mul_neg r, ENNReal.ofReal_mul hr.le, ENNReal.ofReal_mul (by positivity)]
  ring

theorem boxMuller_eq_bm (p : ℝ × ℝ) : boxMuller p.1 p.2 = bm p := by
  rw [box_muller_polar, bm, mul_comm (cos _), mul_comm (sin _)]

/-- the same for the model's `boxMuller` (what `gaussianAt` evaluates) -/
theorem boxMuller_law_model (f : ℝ × ℝ → ℝ≥0∞) (hf : Measurable f) :
    ∫⁻ p in Ioo (0:ℝ) 1 ×ˢ Ioo (0:ℝ) 1, f (boxMuller p.1 p.2) = ∫⁻ z, f z * ENNReal.ofReal (gauss2 z) := by
  simp only [boxMuller_eq_bm, boxMuller_law f hf]

end Momtrop.C13
