import Momtrop.Model.Table
/-!
# The two outcomes of `generateTable`, and the `ω` its `J` fill reads (law-free, core Lean only)
-/
namespace Momtrop
open Scalar
variable {α : Type} [Scalar α]

/-- with `f := preEntry G D`: on the table's ids, the `ω` handed to the `J` fill is the stored degree of divergence -/
theorem omegaOf_map_range (f : Mask → Bool × Nat × α) {N : Nat} {s : Mask} (hs : s < N) :
    omegaOf ((List.range N).map f) s = (f s).2.2 := by
  unfold omegaOf
  rw [List.getElem?_map, List.getElem?_range hs]
  rfl

theorem generateTable_error_iff (Γ : α → α) (G : TGraph α) (D : Nat) (i : Mask) :
    generateTable Γ G D = .error i ↔ (List.range (2 ^ G.topology.length)).find? (isBad G D) = some i := by
  simp only [generateTable]
  cases (List.range (2 ^ G.topology.length)).find? (isBad G D) with
  | none => exact ⟨fun h => (nomatch h), fun h => (nomatch h)⟩
  | some j => exact ⟨fun h => congrArg some (Except.error.inj h), fun h => congrArg Except.error (Option.some.inj h)⟩

theorem generateTable_ok (Γ : α → α) (G : TGraph α) (D : Nat) (T : Table α) (h : generateTable Γ G D = .ok T) :
    (List.range (2 ^ G.topology.length)).find? (isBad G D) = none ∧ T.dimension = D ∧ T.graph = G ∧
    T.entries.length = 2 ^ G.topology.length ∧
    ∀ s, s < 2 ^ G.topology.length → ∃ e, T.entries[s]? = some e ∧
      e.loopNumber = (preEntry G D s).2.1 ∧ e.mms = (preEntry G D s).1 ∧ e.dod = (preEntry G D s).2.2 ∧
      e.j = ((fillJ (omegaOf ((List.range (2 ^ G.topology.length)).map (preEntry G D))) G.topology.length
                G.topology.length (Mask.full G.topology.length)
                (List.replicate (2 ^ G.topology.length) none)).2.getD s none).getD zero := by
  simp only [generateTable] at h
  cases hf : (List.range (2 ^ G.topology.length)).find? (isBad G D) with
  | some j => rw [hf] at h; cases h
  | none =>
    rw [hf] at h
    cases h
    refine ⟨rfl, rfl, rfl, ?_, fun s hs => ?_⟩
    · rw [List.length_map, List.length_range]
    · rw [List.getElem?_map, List.getElem?_range hs, Option.map_some]
      -- `with_reducible`: the fields are read off the record, `preEntry` stays folded
      with_reducible exact ⟨_, rfl, rfl, rfl, rfl, rfl⟩

end Momtrop
