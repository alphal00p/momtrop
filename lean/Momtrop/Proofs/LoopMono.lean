import Momtrop.Proofs.LoopStep
/-!
# When does a removal lower the loop number, and why that is monotone

Closing a cycle (`Cyc`) is visibly monotone in the other edges, hence by `loopNumber_insert` an edge that does not raise the loop number
over `s₁'` does not raise it over any `s₂' ⊆ s₁'` either (`loopNumber_insert_mono`: supermodularity of the cyclomatic number).
-/
namespace Momtrop
variable {α : Type}

theorem loopNumber_insert_mono {top : List (TEdge α)} {s1 s1' s2 s2' : List Nat} {e : Nat} (hp1 : s1.Perm (e :: s1'))
    (hp2 : s2.Perm (e :: s2')) (hnd1 : s1.Nodup) (hnd2 : s2.Nodup) (hvalid : ∀ x ∈ s1, x < top.length) (hsub : ∀ x ∈ s2', x ∈ s1')
    (h : loopNumber top s1 = loopNumber top s1') : loopNumber top s2 = loopNumber top s2' := by
  have hvalid2 : ∀ x ∈ s2, x < top.length := fun x hx =>
    hvalid x (hp1.mem_iff.mpr (List.mem_cons.mpr ((List.mem_cons.mp (hp2.mem_iff.mp hx)).imp_right (hsub x))))
  have h1 : ¬ Cyc top s1' e := fun hc => by
    rw [loopNumber_insert hp1 hnd1 hvalid, if_pos hc] at h
    exact Nat.succ_ne_self _ h
  rw [loopNumber_insert hp2 hnd2 hvalid2, if_neg fun hc => h1 (hc.mono hsub), Nat.add_zero]

/-- a removal lowers `get_loop_number` exactly when the removed edge closes a cycle with the rest -/
theorem loopNumber_drop_iff (top : List (TEdge α)) (s : List Nat) (hs : s.Nodup) (hvalid : ∀ x ∈ s, x < top.length)
    (e : Nat) (he : e ∈ s) :
    loopNumber top s = loopNumber top (s.erase e) + 1 ↔ Cyc top (s.erase e) e :=
  loopNumber_insert_iff (List.perm_cons_erase he) hs hvalid

/-- supermodularity of `get_loop_number`, in the erase form -/
theorem bridge_mono (top : List (TEdge α)) (s1 s2 : List Nat) (hs1 : s1.Nodup) (hs2 : s2.Nodup)
    (hvalid : ∀ x ∈ s1, x < top.length) (hsub : ∀ x ∈ s2, x ∈ s1) (e : Nat) (he : e ∈ s2)
    (h : loopNumber top s1 = loopNumber top (s1.erase e)) : loopNumber top s2 = loopNumber top (s2.erase e) :=
  loopNumber_insert_mono (List.perm_cons_erase (hsub e he)) (List.perm_cons_erase he) hs1 hs2 hvalid
    (fun x hx => hs1.mem_erase_iff.mpr ⟨(hs2.mem_erase_iff.mp hx).1, hsub x (hs2.mem_erase_iff.mp hx).2⟩) h

theorem cls_congr (top : List (TEdge α)) (s1 s2 : List Nat) (h : ∀ x, x ∈ s1 ↔ x ∈ s2) (f : Nat) :
    cls top s1 f = cls top s2 f := by
  ext x
  rw [mem_cls, mem_cls, h x]
  exact and_congr_right fun _ => ⟨edgeConn_subset fun y hy => (h y).mp hy, edgeConn_subset fun y hy => (h y).mpr hy⟩

/-- the loop number depends only on the set of edges, not on the order in which a hash set of the code happens to list them -/
theorem loopNumber_perm (top : List (TEdge α)) (s1 s2 : List Nat) (hs1 : s1.Nodup) (hs2 : s2.Nodup)
    (hvalid : ∀ x ∈ s1, x < top.length) (h : ∀ x, x ∈ s1 ↔ x ∈ s2) : loopNumber top s1 = loopNumber top s2 := by
  have c1 := loopNumber_classes top s1 hs1 hvalid
  have c2 := loopNumber_classes top s2 hs2 (fun x hx => hvalid x ((h x).mpr hx))
  have hc : classes top s1 = classes top s2 := by
    unfold classes
    rw [List.toFinset_eq_of_perm _ _ ((List.perm_ext_iff_of_nodup hs1 hs2).mpr h)]
    exact Finset.image_congr fun f _ => cls_congr top s1 s2 h f
  rw [verts_congr top h, ((List.perm_ext_iff_of_nodup hs1 hs2).mpr h).length_eq, hc] at c1
  exact Nat.add_right_cancel (c1.trans c2.symm)

end Momtrop
