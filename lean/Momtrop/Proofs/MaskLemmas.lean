import Momtrop.Model.Mask
/-!
# Bit-mask lemmas (core Lean only)

An id `g < 2 ^ n` is the set of its edges `edges n g`; removing a listed edge with `pop` erases it from
that list. Everything else (the number of edges `card`, `popcount`, `isEmpty`, `hasOneEdge`) is read off the edge list.
A complete removal order of `g` is a list `σ` with `σ.Perm (edges n g)`.
-/
namespace Momtrop.Mask

theorem hasEdge_iff (g : Mask) (e : Nat) : hasEdge g e = g.testBit e := by
  unfold hasEdge
  rw [Nat.one_shiftLeft]
  cases h : g.testBit e with
  | true =>
    have hbit : (g &&& 2 ^ e).testBit e = true := by simp [h]
    exact bne_iff_ne.mpr fun h0 => by simp [h0] at hbit
  | false =>
    have h0 : g &&& 2 ^ e = 0 := by
      apply Nat.eq_of_testBit_eq
      intro i
      rw [Nat.testBit_and, Nat.testBit_two_pow, Nat.zero_testBit]
      by_cases hi : e = i
      · rw [← hi, h, Bool.false_and]
      · rw [decide_eq_false hi, Bool.and_false]
    rw [h0]; rfl

theorem hasEdge_pop (g : Mask) (e f : Nat) :
    hasEdge (pop g e) f = (if e = f then !hasEdge g f else hasEdge g f) := by
  simp only [hasEdge_iff, pop, Nat.one_shiftLeft, Nat.testBit_xor, Nat.testBit_two_pow]
  by_cases h : e = f <;> simp [h]

theorem edges_pop (n : Nat) (g : Mask) (e : Nat) (he : hasEdge g e = true) :
    edges n (pop g e) = (edges n g).filter (· ≠ e) := by
  unfold edges
  rw [List.filter_filter]
  apply List.filter_congr
  intro f _
  rw [hasEdge_pop]
  by_cases h : e = f
  · subst h; simp [he]
  · have : f ≠ e := fun h' => h h'.symm
    simp [h, this]

theorem full_lt (n : Nat) : full n < 2 ^ n := by
  unfold full
  rw [Nat.one_shiftLeft]
  exact Nat.sub_lt (Nat.two_pow_pos n) Nat.one_pos

theorem edges_full (n : Nat) : edges n (full n) = List.range n := by
  unfold edges full
  rw [Nat.one_shiftLeft]
  apply List.filter_eq_self.mpr
  intro e he
  rw [hasEdge_iff, Nat.testBit_two_pow_sub_one]
  simpa using List.mem_range.mp he

theorem mem_edges {n : Nat} {g : Mask} {e : Nat} : e ∈ edges n g ↔ e < n ∧ hasEdge g e = true := by
  simp [edges]

theorem edges_nodup (n : Nat) (g : Mask) : (edges n g).Nodup :=
  List.Nodup.sublist List.filter_sublist List.nodup_range

theorem edges_sorted (n : Nat) (g : Mask) : (edges n g).Pairwise (· ≤ ·) :=
  (List.pairwise_lt_range.imp (fun h => Nat.le_of_lt h)).filter _

theorem edges_zero (n : Nat) : edges n 0 = [] := by
  unfold edges
  apply List.filter_eq_nil_iff.mpr
  intro e _
  simp [hasEdge]

theorem edges_pop_erase (n : Nat) (g : Mask) (e : Nat) (he : e ∈ edges n g) :
    edges n (pop g e) = (edges n g).erase e := by
  rw [edges_pop n g e (mem_edges.mp he).2, (edges_nodup n g).erase_eq_filter]
  apply List.filter_congr
  intro x _
  by_cases hx : x = e <;> simp [hx]

theorem pop_lt {n : Nat} {g : Mask} {e : Nat} (hg : g < 2 ^ n) (he : e < n) : pop g e < 2 ^ n := by
  unfold pop
  rw [Nat.one_shiftLeft]
  exact Nat.xor_lt_two_pow hg (Nat.pow_lt_pow_right Nat.one_lt_two he)

theorem pop_lt_of_mem {n : Nat} {g : Mask} {e : Nat} (hg : g < 2 ^ n) (he : e ∈ edges n g) :
    pop g e < 2 ^ n :=
  pop_lt hg (mem_edges.mp he).1

theorem mem_edges_of_testBit {n : Nat} {g : Mask} {i : Nat} (hg : g < 2 ^ n) (hi : g.testBit i = true) :
    i ∈ edges n g := by
  refine mem_edges.mpr ⟨Nat.lt_of_not_le fun hni => ?_, (hasEdge_iff g i).trans hi⟩
  rw [Nat.testBit_lt_two_pow (Nat.lt_of_lt_of_le hg (Nat.pow_le_pow_right Nat.two_pos hni))] at hi
  cases hi

theorem edges_ne_nil {n : Nat} {g : Mask} (hg : g < 2 ^ n) (h0 : g ≠ 0) : edges n g ≠ [] := by
  obtain ⟨i, hi⟩ := Nat.exists_testBit_of_ne_zero h0
  exact List.ne_nil_of_mem (mem_edges_of_testBit hg hi)

theorem perm_edges_nil_iff {n : Nat} {m : Mask} {τ : List Nat} (hm : m < 2 ^ n) (hτ : τ.Perm (edges n m)) :
    τ = [] ↔ m = 0 := by
  constructor
  · rintro rfl
    exact Decidable.byContradiction fun h0 => edges_ne_nil hm h0 hτ.nil_eq.symm
  · rintro rfl
    rw [edges_zero] at hτ
    exact hτ.eq_nil

theorem perm_pop {n : Nat} {g : Mask} {e : Nat} {τ : List Nat} (hg : g < 2 ^ n) (hp : (e :: τ).Perm (edges n g)) :
    e ∈ edges n g ∧ pop g e < 2 ^ n ∧ τ.Perm (edges n (pop g e)) ∧ (τ = [] ↔ pop g e = 0) := by
  have he : e ∈ edges n g := hp.mem_iff.mp List.mem_cons_self
  have hlt : pop g e < 2 ^ n := pop_lt_of_mem hg he
  have hτ : τ.Perm (edges n (pop g e)) := by
    rw [edges_pop_erase _ g e he]
    simpa using hp.erase e
  exact ⟨he, hlt, hτ, perm_edges_nil_iff hlt hτ⟩

theorem foldl_pop_perm {n : Nat} : ∀ (σ : List Nat) (g : Mask), g < 2 ^ n → σ.Perm (edges n g) → σ.foldl pop g = 0 := by
  intro σ
  induction σ with
  | nil => exact fun _ hg hp => (perm_edges_nil_iff hg hp).mp rfl
  | cons _ τ ih =>
    intro _ hg hp
    have ⟨_, hlt, hτ, _⟩ := perm_pop hg hp
    exact ih _ hlt hτ

theorem popcount_zero : popcount 0 = 0 := by unfold popcount; rfl

theorem popcount_pos (g : Nat) (h : g ≠ 0) : popcount g = g % 2 + popcount (g / 2) := by
  cases g with
  | zero => exact absurd rfl h
  | succ n => rw [popcount]

theorem popcount_eq_card (n : Nat) : ∀ g : Nat, g < 2 ^ n → popcount g = (edges n g).length := by
  induction n with
  | zero =>
    intro g hg
    obtain rfl : g = 0 := Nat.lt_one_iff.mp hg
    exact popcount_zero
  | succ n ih =>
    intro g hg
    by_cases h0 : g = 0
    · rw [h0, popcount_zero, edges_zero]; rfl
    · -- bit 0 is edge 0, and the edges `i + 1` of `g` are the edges `i` of `g / 2`
      rw [popcount_pos g h0, ih (g / 2) (Nat.div_lt_of_lt_mul (Nat.pow_succ' ▸ hg)), edges, edges,
        ← List.countP_eq_length_filter, ← List.countP_eq_length_filter, List.range_succ_eq_map, List.countP_cons,
        List.countP_map, Nat.add_comm]
      congr 1
      · apply List.countP_congr
        intro i _
        simp only [Function.comp_apply, hasEdge_iff, Nat.succ_eq_add_one, Nat.testBit_succ]
      · rw [hasEdge_iff, Nat.testBit_zero]
        rcases Nat.mod_two_eq_zero_or_one g with h | h <;> simp [h]

theorem testBit_foldl_or (l : List Nat) (acc i : Nat) :
    (l.foldl (fun id e => id ||| (1 <<< e)) acc).testBit i = (acc.testBit i || decide (i ∈ l)) := by
  induction l generalizing acc with
  | nil => simp
  | cons a as ih =>
    rw [List.foldl_cons, ih, Nat.testBit_or, Nat.one_shiftLeft, Nat.testBit_two_pow]
    simp only [Bool.or_assoc, List.mem_cons, Bool.decide_or, @eq_comm _ a i]

theorem hasEdge_ofList (l : List Nat) (e : Nat) : hasEdge (ofList l) e = decide (e ∈ l) := by
  rw [hasEdge_iff]; unfold ofList
  rw [testBit_foldl_or]; simp

theorem mem_edges_ofList {n : Nat} {l : List Nat} {e : Nat} : e ∈ edges n (ofList l) ↔ e < n ∧ e ∈ l := by
  rw [mem_edges, hasEdge_ofList]; simp

end Momtrop.Mask

namespace Momtrop

/-- number of edges of a subgraph id -/
def card (n : Nat) (g : Mask) : Nat := (Mask.edges n g).length

theorem isEmpty_iff (g : Mask) : Mask.isEmpty g = true ↔ g = 0 := by simp [Mask.isEmpty]

theorem card_pop {n : Nat} {g : Mask} {e : Nat} (he : e ∈ Mask.edges n g) :
    card n (Mask.pop g e) + 1 = card n g := by
  rw [card, Mask.edges_pop_erase n g e he, List.length_erase_of_mem he]
  exact Nat.sub_add_cancel (List.length_pos_of_mem he)

theorem card_full (n : Nat) : card n (Mask.full n) = n := by
  rw [card, Mask.edges_full, List.length_range]

theorem card_eq_zero {n : Nat} {g : Mask} (hg : g < 2 ^ n) : card n g = 0 ↔ g = 0 := by
  rw [card, List.length_eq_zero_iff]
  exact ⟨fun h => Decidable.byContradiction fun h0 => Mask.edges_ne_nil hg h0 h, fun h => h ▸ Mask.edges_zero n⟩

theorem Mask.isEmpty_iff_card {n : Nat} {g : Mask} (hg : g < 2 ^ n) : Mask.isEmpty g = true ↔ card n g = 0 :=
  (isEmpty_iff g).trans (card_eq_zero hg).symm

theorem Mask.hasOneEdge_iff {n : Nat} {g : Mask} (hg : g < 2 ^ n) : Mask.hasOneEdge g = true ↔ card n g = 1 := by
  unfold Mask.hasOneEdge
  rw [Mask.popcount_eq_card n g hg]
  simp [card]

theorem Mask.isEmpty_pop_iff {n : Nat} {g : Mask} {e : Nat} (hg : g < 2 ^ n) (he : e ∈ Mask.edges n g) :
    Mask.isEmpty (Mask.pop g e) = true ↔ Mask.hasOneEdge g = true := by
  rw [Mask.hasOneEdge_iff hg, Mask.isEmpty_iff_card (Mask.pop_lt_of_mem hg he), ← card_pop he, Nat.succ_inj]

end Momtrop
