import Momtrop.Model.Matrix
/-!
# The two outcomes of `decompose`

`decompose` either reports an error or returns one fixed record (`record`), whatever the tolerance: `decompose_ok_iff`, through which
C15 and C16 read the routine. Core Lean only.
-/
namespace Momtrop.C16
open Scalar
variable {α : Type} [Scalar α]

/-- the residual the stability test looks at: `‖inverse·A − 1‖_{2,1}` -/
def residual (n : Nat) (A : Mat α) (r : Decomp α) : α :=
  Mat.l21 n (Mat.sub n (Mat.mul n r.inverse A) (Mat.identity n))

/-- the record `decompose` returns whenever it returns one (at `α := ℝ` it is `C15.result`, by `rfl`) -/
def record (n : Nat) (A : Mat α) : Decomp α :=
  let Q := cholQ A n
  let iq := inverseQ n (nSum n (nMatrix n Q) (numPowers n)) (invDiag n Q)
  { determinant := detQ n Q * detQ n Q
    inverse := Mat.mul n (Mat.transpose n iq) iq
    qT := Mat.transpose n Q
    qTInv := Mat.transpose n iq }

theorem decompose_eq (n : Nat) (A : Mat α) (tol : Option α) :
    decompose n A tol =
      if beq (detQ n (cholQ A n)) zero || beq (detQ n (cholQ A n) * detQ n (cholQ A n)) zero then .error .zeroDet
      else match tol with
        | none => .ok (record n A)
        | some t => if leB (residual n A (record n A)) t then .ok (record n A) else .error .unstable :=
  rfl

theorem decompose_ok_iff (n : Nat) (A : Mat α) (tol : Option α) (r : Decomp α) :
    decompose n A tol = .ok r ↔
      (beq (detQ n (cholQ A n)) zero || beq (detQ n (cholQ A n) * detQ n (cholQ A n)) zero) = false ∧
      r = record n A ∧ ∀ t, tol = some t → leB (residual n A (record n A)) t = true := by
  rw [decompose_eq]
  cases beq (detQ n (cholQ A n)) zero || beq (detQ n (cholQ A n) * detQ n (cholQ A n)) zero
  · cases tol with
    | none => simpa using eq_comm
    | some t =>
      by_cases hle : leB (residual n A (record n A)) t = true
      · simpa [hle] using eq_comm
      · simp [hle]
  · simp

end Momtrop.C16
