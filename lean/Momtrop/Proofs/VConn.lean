import Momtrop.Proofs.LoopStep
/-!
# Vertices joined inside a set of edges

`VConn` is the connectivity of edges (`EdgeConn`) read at the vertices. An edge that closes a cycle with `γ` (`Cyc`, the right side of
`loopNumber_insert_iff`) has its end points joined inside `γ` (`cyc_vconn`). Whatever follows a chain of edges goes through
`VConn.induction`: `conn_transfer` and `add_edge_split` are instances of it.
-/
namespace Momtrop.C07

section vconn
variable {α : Type}

/-- two vertices are joined inside the edge list `γ` -/
def VConn (top : List (TEdge α)) (γ : List ℕ) (v w : ℕ) : Prop :=
  v = w ∨ ∃ h1 ∈ γ, ∃ h2 ∈ γ, v ∈ endSet top h1 ∧ w ∈ endSet top h2 ∧ EdgeConn top γ h1 h2

variable {top : List (TEdge α)} {γ : List ℕ}

theorem VConn.symm {v w : ℕ} (h : VConn top γ v w) : VConn top γ w v := by
  rcases h with rfl | ⟨h1, hh1, h2, hh2, a, b, c⟩
  · exact Or.inl rfl
  · exact Or.inr ⟨h2, hh2, h1, hh1, b, a, c.symm⟩

theorem VConn.trans {u v w : ℕ} (h1 : VConn top γ u v) (h2 : VConn top γ v w) : VConn top γ u w := by
  rcases h1 with rfl | ⟨a1, ha1, a2, ha2, hu, hv, hc1⟩
  · exact h2
  · rcases h2 with rfl | ⟨b1, hb1, b2, hb2, hv', hw, hc2⟩
    · exact Or.inr ⟨a1, ha1, a2, ha2, hu, hv, hc1⟩
    · exact Or.inr ⟨a1, ha1, b2, hb2, hu, hw, (hc1.trans (edgeConn_of_share ha2 hb1 hv hv')).trans hc2⟩

theorem VConn.mono {γ' : List ℕ} (hsub : ∀ x ∈ γ, x ∈ γ') {v w : ℕ} (h : VConn top γ v w) : VConn top γ' v w := by
  rcases h with rfl | ⟨h1, hh1, h2, hh2, a, b, c⟩
  · exact Or.inl rfl
  · exact Or.inr ⟨h1, hsub _ hh1, h2, hsub _ hh2, a, b, edgeConn_subset hsub c⟩

theorem vconn_edge {h : ℕ} (hh : h ∈ γ) {a b : ℕ} (ha : a ∈ endSet top h) (hb : b ∈ endSet top h) : VConn top γ a b :=
  Or.inr ⟨h, hh, h, hh, ha, hb, Relation.ReflTransGen.refl⟩

theorem cyc_vconn (f : ℕ) (h : Cyc top γ f) : ∀ a ∈ endSet top f, ∀ b ∈ endSet top f, VConn top γ a b := by
  intro a ha b hb
  rcases h with h | ⟨v1, hv1, v2, hv2, hne, h1, hh1, h2, hh2, hvh1, hvh2, hconn⟩
  · obtain ⟨c, hc⟩ := Finset.card_eq_one.mp h
    rw [hc, Finset.mem_singleton] at ha hb
    exact Or.inl (ha.trans hb.symm)
  · have h12 : VConn top γ v1 v2 := Or.inr ⟨h1, hh1, h2, hh2, hvh1, hvh2, hconn⟩
    rw [endSet_eq_pair hv1 hv2 hne, Finset.mem_insert, Finset.mem_singleton] at ha hb
    rcases ha with rfl | rfl <;> rcases hb with rfl | rfl
    · exact Or.inl rfl
    · exact h12
    · exact h12.symm
    · exact Or.inl rfl

theorem VConn.induction {R : ℕ → Prop} {v w : ℕ} (h : VConn top γ v w) (hv : R v)
    (hstep : ∀ j ∈ γ, ∀ q ∈ endSet top j, R q → ∀ p ∈ endSet top j, R p) : R w := by
  rcases h with rfl | ⟨h1, hh1, h2, -, hv1, hw2, hc⟩
  · exact hv
  · have key : ∀ j, EdgeConn top γ h1 j → ∀ p ∈ endSet top j, R p := fun j hj => by
      induction hj with
      | refl => exact hstep h1 hh1 v hv1 hv
      | @tail k j _ hkj ih =>
        obtain ⟨q, hqk, hqj⟩ := (adj_iff_share top k j).mp hkj.2.2
        exact hstep j hkj.2.1 q hqj (ih q hqk)
    exact key h2 hc w hw2

theorem conn_transfer {γ' : List ℕ} (hP : ∀ h ∈ γ, ∀ a ∈ endSet top h, ∀ b ∈ endSet top h, VConn top γ' a b)
    {i j : ℕ} (hi : i ∈ γ) (hc : EdgeConn top γ i j) :
    ∀ a ∈ endSet top i, ∀ b ∈ endSet top j, VConn top γ' a b := fun a ha _ hb =>
  VConn.induction (R := fun p => VConn top γ' a p) (Or.inr ⟨i, hi, j, edgeConn_mem hi hc, ha, hb, hc⟩) (Or.inl rfl)
    fun h hh q hq hR p hp => hR.trans (hP h hh q hq p hp)

end vconn

section
variable {α : Type}

theorem VConn.congr {top : List (TEdge α)} {γ γ' : List ℕ} (h : ∀ x, x ∈ γ ↔ x ∈ γ') {v w : ℕ} :
    VConn top γ v w ↔ VConn top γ' v w :=
  ⟨fun hh => hh.mono fun x hx => (h x).mp hx, fun hh => hh.mono fun x hx => (h x).mpr hx⟩

theorem vconn_toFinset {top : List (TEdge α)} {σ : List ℕ} {v w : ℕ} : VConn top σ.toFinset.toList v w ↔ VConn top σ v w :=
  VConn.congr fun x => by rw [Finset.mem_toList, List.mem_toFinset]

theorem add_edge_split (top : List (TEdge α)) (γ : List ℕ) (e : ℕ) (v w : ℕ) (h : VConn top (e :: γ) v w) :
    VConn top γ v w ∨ ∃ a ∈ endSet top e, ∃ b ∈ endSet top e, VConn top γ v a ∧ VConn top γ b w := by
  refine h.induction (R := fun p => VConn top γ v p ∨ ∃ a ∈ endSet top e, ∃ b ∈ endSet top e, VConn top γ v a ∧ VConn top γ b p)
    (Or.inl (Or.inl rfl)) fun j hj q hq hR p hp => ?_
  rcases List.mem_cons.mp hj with rfl | hjγ
  · -- across `e` itself, from its end `q` to its end `p`
    rcases hR with hq' | ⟨a, ha, _, _, hva, _⟩
    · exact Or.inr ⟨q, hq, p, hp, hq', Or.inl rfl⟩
    · exact Or.inr ⟨a, ha, p, hp, hva, Or.inl rfl⟩
  · have hqp : VConn top γ q p := vconn_edge hjγ hq hp
    rcases hR with hq' | ⟨a, ha, b, hb, hva, hbq⟩
    · exact Or.inl (hq'.trans hqp)
    · exact Or.inr ⟨a, ha, b, hb, hva, hbq.trans hqp⟩

end

end Momtrop.C07
