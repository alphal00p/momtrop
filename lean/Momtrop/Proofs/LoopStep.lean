import Momtrop.Proofs.LoopNumber
/-!
# Removing an edge lowers the loop number by 0 or 1

`loopNumber_insert`: one more edge `e` raises the loop number of `s'` by one if it closes a cycle with `s'` (`Cyc`), and not at all if not;
the erase forms are the case `s' = s.erase e`.

The proof counts connectivity classes. The classes of `s'` at the end points of `e` (`clsA`) merge with `{e}` into one class of `s`, the
others stay as they are (`classes_insert`). An end point of `e` is either touched by `s'`, and then it picks one of the merging classes,
or it is new in `V(s)`. With `loopNumber_cyclomatic` on both sides this gives `loops s + (#new + #clsA) = loops s' + 2`
(`loopNumber_insert_eq`), and `#new + #clsA` is `1` if `e` closes a cycle and `2` if not (`step_count`).
-/
namespace Momtrop
open Classical
variable {α : Type}

/-- the connectivity class of `f` inside `s` -/
noncomputable def cls (top : List (TEdge α)) (s : List Nat) (f : Nat) : Finset Nat :=
  s.toFinset.filter (fun g => EdgeConn top s f g)

noncomputable def classes (top : List (TEdge α)) (s : List Nat) : Finset (Finset Nat) := s.toFinset.image (cls top s)

theorem mem_cls {top : List (TEdge α)} {s : List Nat} {f g : Nat} : g ∈ cls top s f ↔ g ∈ s ∧ EdgeConn top s f g := by
  simp [cls]

theorem cls_eq_of_conn {top : List (TEdge α)} {s : List Nat} {f g : Nat} (h : EdgeConn top s f g) : cls top s f = cls top s g := by
  ext x
  rw [mem_cls, mem_cls]
  exact ⟨fun ⟨hx, hc⟩ => ⟨hx, h.symm.trans hc⟩, fun ⟨hx, hc⟩ => ⟨hx, h.trans hc⟩⟩

theorem self_mem_cls {top : List (TEdge α)} {s : List Nat} {f : Nat} (hf : f ∈ s) : f ∈ cls top s f :=
  mem_cls.mpr ⟨hf, Relation.ReflTransGen.refl⟩

theorem mem_classes {top : List (TEdge α)} {s : List Nat} {c : Finset Nat} : c ∈ classes top s ↔ ∃ f ∈ s, cls top s f = c := by
  simp only [classes, Finset.mem_image, List.mem_toFinset]

theorem conn_of_cls_eq {top : List (TEdge α)} {s : List Nat} {f g : Nat} (hg : g ∈ s) (h : cls top s f = cls top s g) :
    EdgeConn top s f g :=
  (mem_cls.mp (h ▸ self_mem_cls hg)).2

/-- `get_connected_components` returns one component per connectivity class -/
theorem componentLists_length (top : List (TEdge α)) (s : List Nat) (hs : s.Nodup) :
    (componentLists top s).length = (classes top s).card := by
  obtain ⟨hclass, hpair, hcover⟩ := componentLists_spec top s hs
  have hEq : ∀ c ∈ componentLists top s, ∃ seed ∈ s, seed ∈ c ∧ c.toFinset = cls top s seed := by
    intro c hc
    obtain ⟨seed, hseed, hcl⟩ := hclass c hc
    refine ⟨seed, hseed, (hcl seed).mpr Relation.ReflTransGen.refl, ?_⟩
    ext x
    rw [List.mem_toFinset, mem_cls, hcl]
    exact ⟨fun h => ⟨edgeConn_mem hseed h, h⟩, fun h => h.2⟩
  -- disjoint lists have different sets of members, since none is empty
  have hnd : ((componentLists top s).map List.toFinset).Nodup := by
    refine List.Pairwise.map _ (fun {c1 c2} h heq => ?_) (hpair.imp_of_mem fun h1 _ hd => (⟨h1, hd⟩ : _ ∧ _))
    obtain ⟨seed, _, hsc, _⟩ := hEq c1 h.1
    exact h.2 seed hsc (List.mem_toFinset.mp (heq ▸ List.mem_toFinset.mpr hsc))
  rw [← List.length_map (f := List.toFinset), ← List.toFinset_card_of_nodup hnd]
  congr 1
  ext c
  simp only [List.mem_toFinset, List.mem_map, mem_classes]
  constructor
  · rintro ⟨l, hl, rfl⟩
    obtain ⟨seed, hseed, _, h⟩ := hEq l hl
    exact ⟨seed, hseed, h.symm⟩
  · rintro ⟨f, hf, rfl⟩
    obtain ⟨l, hl, hfl⟩ := hcover f hf
    obtain ⟨seed, _, _, h⟩ := hEq l hl
    exact ⟨l, hl, h.trans (cls_eq_of_conn (mem_cls.mp (h ▸ List.mem_toFinset.mpr hfl)).2)⟩

/-- the class of `s` at vertex `v`: the edges of `s` connected to an edge at `v` (empty if `s` does not touch `v`) -/
noncomputable def vcls (top : List (TEdge α)) (s : List Nat) (v : Nat) : Finset Nat :=
  s.toFinset.filter fun h => ∃ g ∈ s, v ∈ endSet top g ∧ EdgeConn top s g h

theorem vcls_eq_cls {top : List (TEdge α)} {s : List Nat} {g v : Nat} (hg : g ∈ s) (hv : v ∈ endSet top g) :
    vcls top s v = cls top s g := by
  ext h
  simp only [vcls, Finset.mem_filter, List.mem_toFinset, mem_cls, and_congr_right_iff]
  exact fun _ => ⟨fun ⟨g', hg', hv', hc⟩ => (edgeConn_of_share hg hg' hv hv').trans hc, fun hc => ⟨g, hg, hv, hc⟩⟩

/-- the classes of `s'` at the end points of `e`: those that an edge `e` joins -/
noncomputable def clsA (top : List (TEdge α)) (s' : List Nat) (e : Nat) : Finset (Finset Nat) :=
  (endSet top e ∩ verts top s').image (vcls top s')

theorem mem_clsA {top : List (TEdge α)} {s' : List Nat} {e : Nat} {c : Finset Nat} :
    c ∈ clsA top s' e ↔ ∃ g ∈ s', adj top g e = true ∧ cls top s' g = c := by
  simp only [clsA, Finset.mem_image, Finset.mem_inter, mem_verts]
  constructor
  · rintro ⟨v, ⟨hve, g, hg, hvg⟩, rfl⟩
    exact ⟨g, hg, (adj_iff_share top g e).mpr ⟨v, hvg, hve⟩, (vcls_eq_cls hg hvg).symm⟩
  · rintro ⟨g, hg, hadj, rfl⟩
    obtain ⟨v, hvg, hve⟩ := (adj_iff_share top g e).mp hadj
    exact ⟨v, ⟨hve, g, hg, hvg⟩, vcls_eq_cls hg hvg⟩

theorem clsA_subset (top : List (TEdge α)) (s' : List Nat) (e : Nat) : clsA top s' e ⊆ classes top s' := by
  intro c hc
  obtain ⟨g, hg, _, h⟩ := mem_clsA.mp hc
  exact mem_classes.mpr ⟨g, hg, h⟩

theorem loopNumber_classes (top : List (TEdge α)) (s : List Nat) (hs : s.Nodup) (hvalid : ∀ e ∈ s, e < top.length) :
    loopNumber top s + (verts top s).card = s.length + (classes top s).card :=
  componentLists_length top s hs ▸ loopNumber_cyclomatic top s hs hvalid

/-- `e` closes a cycle with `s'`: it is a self-loop, or its two end points are joined inside `s'` -/
def Cyc (top : List (TEdge α)) (s' : List Nat) (e : Nat) : Prop :=
  (endSet top e).card = 1 ∨
  ∃ v1 ∈ endSet top e, ∃ v2 ∈ endSet top e, v1 ≠ v2 ∧
    ∃ h1 ∈ s', ∃ h2 ∈ s', v1 ∈ endSet top h1 ∧ v2 ∈ endSet top h2 ∧ EdgeConn top s' h1 h2

theorem Cyc.mono {top : List (TEdge α)} {s'' s' : List Nat} {e : Nat} (hsub : ∀ x ∈ s'', x ∈ s') (h : Cyc top s'' e) :
    Cyc top s' e := by
  rcases h with h | ⟨v1, hv1, v2, hv2, hne, h1, hh1, h2, hh2, a, b, c⟩
  · exact Or.inl h
  · exact Or.inr ⟨v1, hv1, v2, hv2, hne, h1, hsub h1 hh1, h2, hsub h2 hh2, a, b, edgeConn_subset hsub c⟩

theorem cyc_iff_not_injOn (top : List (TEdge α)) (s' : List Nat) (e : Nat) :
    Cyc top s' e ↔ (endSet top e).card = 1 ∨ ¬ Set.InjOn (vcls top s') ↑(endSet top e ∩ verts top s') := by
  refine or_congr_right ?_
  simp only [Set.InjOn, Finset.mem_coe, Finset.mem_inter, mem_verts, not_forall]
  constructor
  · rintro ⟨v1, hv1, v2, hv2, hne, h1, hh1, h2, hh2, hvh1, hvh2, hconn⟩
    refine ⟨v1, ⟨hv1, h1, hh1, hvh1⟩, v2, ⟨hv2, h2, hh2, hvh2⟩, ?_, hne⟩
    rw [vcls_eq_cls hh1 hvh1, vcls_eq_cls hh2 hvh2, cls_eq_of_conn hconn]
  · rintro ⟨v1, ⟨hv1, h1, hh1, hvh1⟩, v2, ⟨hv2, h2, hh2, hvh2⟩, heq, hne⟩
    rw [vcls_eq_cls hh1 hvh1, vcls_eq_cls hh2 hvh2] at heq
    exact ⟨v1, hv1, v2, hv2, hne, h1, hh1, h2, hh2, hvh1, hvh2, conn_of_cls_eq hh2 heq⟩

theorem clsA_card_le (top : List (TEdge α)) (s' : List Nat) (e : Nat) :
    (clsA top s' e).card ≤ (endSet top e ∩ verts top s').card :=
  Finset.card_image_le

theorem step_count (top : List (TEdge α)) (s' : List Nat) (e : Nat) :
    (endSet top e \ verts top s').card + (clsA top s' e).card = if Cyc top s' e then 1 else 2 := by
  -- `e` has one or two end points, each is new or picks a class, and two end points pick two classes unless they pick the same
  have hsplit := Finset.card_sdiff_add_card_inter (endSet top e) (verts top s')
  have hle2 := endSet_card_le top e
  have hpos := endSet_card_pos top e
  have hA := clsA_card_le top s' e
  have hA0 : 0 < (endSet top e ∩ verts top s').card → 0 < (clsA top s' e).card := fun h =>
    Finset.card_pos.mpr ((Finset.card_pos.mp h).image _)
  rw [cyc_iff_not_injOn, ← Finset.card_image_iff, ← clsA]
  split
  next => omega
  next h =>
    rw [not_or, not_not] at h
    rw [h.2, hsplit]
    exact le_antisymm hle2 (Nat.lt_of_le_of_ne hpos (Ne.symm h.1))

section step
variable {top : List (TEdge α)} {s' s : List Nat} {e : Nat} (hs : ∀ x, x ∈ s ↔ x = e ∨ x ∈ s')
include hs

theorem conn_of_clsA {f : Nat} (hA : cls top s' f ∈ clsA top s' e) : EdgeConn top s f e := by
  obtain ⟨g, hg, hadj, h⟩ := mem_clsA.mp hA
  have hsub : ∀ x ∈ s', x ∈ s := fun x hx => (hs x).mpr (Or.inr hx)
  exact (edgeConn_subset hsub (conn_of_cls_eq hg h.symm)).tail ⟨hsub g hg, (hs e).mpr (Or.inl rfl), hadj⟩

theorem conn_of_not_clsA {f : Nat} (hf : f ∈ s') (hA : cls top s' f ∉ clsA top s' e) {x : Nat} (h : EdgeConn top s f x) :
    x ∈ s' ∧ EdgeConn top s' f x := by
  induction h with
  | refl => exact ⟨hf, Relation.ReflTransGen.refl⟩
  | @tail b c _ hstep ih =>
    obtain ⟨hb, hfb⟩ := ih
    rcases (hs c).mp hstep.2.1 with rfl | hc
    · exact absurd (mem_clsA.mpr ⟨b, hb, hstep.2.2, (cls_eq_of_conn hfb).symm⟩) hA
    · exact ⟨hc, hfb.tail ⟨hb, hc, hstep.2.2⟩⟩

theorem cls_of_not_clsA {f : Nat} (hf : f ∈ s') (hA : cls top s' f ∉ clsA top s' e) : cls top s f = cls top s' f := by
  ext x
  rw [mem_cls, mem_cls]
  exact ⟨fun h => conn_of_not_clsA hs hf hA h.2, fun h =>
    ⟨(hs x).mpr (Or.inr h.1), edgeConn_subset (fun y hy => (hs y).mpr (Or.inr hy)) h.2⟩⟩

theorem classes_insert : classes top s = insert (cls top s e) (classes top s' \ clsA top s' e) := by
  ext c
  simp only [Finset.mem_insert, Finset.mem_sdiff, mem_classes]
  constructor
  · rintro ⟨f, hf, rfl⟩
    rcases (hs f).mp hf with rfl | hf'
    · exact Or.inl rfl
    · by_cases hA : cls top s' f ∈ clsA top s' e
      · exact Or.inl (cls_eq_of_conn (conn_of_clsA hs hA))
      · exact Or.inr ⟨⟨f, hf', (cls_of_not_clsA hs hf' hA).symm⟩, cls_of_not_clsA hs hf' hA ▸ hA⟩
  · rintro (rfl | ⟨⟨f, hf', rfl⟩, hA⟩)
    · exact ⟨e, (hs e).mpr (Or.inl rfl), rfl⟩
    · exact ⟨f, (hs f).mpr (Or.inr hf'), cls_of_not_clsA hs hf' hA⟩

theorem classes_insert_card (he : e ∉ s') : (classes top s).card + (clsA top s' e).card = (classes top s').card + 1 := by
  rw [classes_insert hs, Finset.card_insert_of_notMem, Nat.add_right_comm,
    Finset.card_sdiff_add_card_eq_card (clsA_subset top s' e)]
  intro h
  obtain ⟨f, _, hf⟩ := mem_classes.mp (Finset.mem_sdiff.mp h).1
  exact he (mem_cls.mp (hf ▸ self_mem_cls ((hs e).mpr (Or.inl rfl)))).1

end step

section insert
variable {top : List (TEdge α)} {s s' : List Nat} {e : Nat}

theorem loopNumber_insert_eq (hp : s.Perm (e :: s')) (hnd : s.Nodup) (hvalid : ∀ x ∈ s, x < top.length) :
    loopNumber top s + (endSet top e \ verts top s').card + (clsA top s' e).card = loopNumber top s' + 2 := by
  have hs : ∀ x, x ∈ s ↔ x = e ∨ x ∈ s' := fun x => hp.mem_iff.trans List.mem_cons
  obtain ⟨he, hnd'⟩ := List.nodup_cons.mp (hp.nodup_iff.mp hnd)
  have c1 := loopNumber_classes top s hnd hvalid
  have c2 := loopNumber_classes top s' hnd' fun x hx => hvalid x ((hs x).mpr (Or.inr hx))
  have hC := classes_insert_card (top := top) hs he
  rw [hp.length_eq, List.length_cons, verts_congr top fun x => hp.mem_iff, verts_cons, ← Finset.card_sdiff_add_card] at c1
  omega

theorem loopNumber_insert (hp : s.Perm (e :: s')) (hnd : s.Nodup) (hvalid : ∀ x ∈ s, x < top.length) :
    loopNumber top s = loopNumber top s' + if Cyc top s' e then 1 else 0 := by
  have h := loopNumber_insert_eq hp hnd hvalid
  rw [Nat.add_assoc, step_count] at h
  split_ifs at h ⊢ <;> exact Nat.add_right_cancel h

theorem loopNumber_insert_or (hp : s.Perm (e :: s')) (hnd : s.Nodup) (hvalid : ∀ x ∈ s, x < top.length) :
    loopNumber top s = loopNumber top s' ∨ loopNumber top s = loopNumber top s' + 1 := by
  rw [loopNumber_insert hp hnd hvalid]
  split
  · exact Or.inr rfl
  · exact Or.inl rfl

theorem loopNumber_insert_iff (hp : s.Perm (e :: s')) (hnd : s.Nodup) (hvalid : ∀ x ∈ s, x < top.length) :
    loopNumber top s = loopNumber top s' + 1 ↔ Cyc top s' e := by
  rw [loopNumber_insert hp hnd hvalid]
  split
  next h => exact iff_of_true rfl h
  next h => exact iff_of_false (Nat.succ_ne_self _).symm h

end insert

theorem loopNumber_erase_eq (top : List (TEdge α)) (s : List Nat) (hs : s.Nodup) (hvalid : ∀ x ∈ s, x < top.length)
    (e : Nat) (he : e ∈ s) :
    loopNumber top s + (endSet top e \ verts top (s.erase e)).card + (clsA top (s.erase e) e).card
      = loopNumber top (s.erase e) + 2 :=
  loopNumber_insert_eq (List.perm_cons_erase he) hs hvalid

/-- removing an edge lowers `get_loop_number` by 0 or 1 (on the table: `C01.loopsT_step`) -/
theorem loopNumber_erase (top : List (TEdge α)) (s : List Nat) (hs : s.Nodup) (hvalid : ∀ x ∈ s, x < top.length)
    (e : Nat) (he : e ∈ s) :
    loopNumber top s = loopNumber top (s.erase e) ∨ loopNumber top s = loopNumber top (s.erase e) + 1 :=
  loopNumber_insert_or (List.perm_cons_erase he) hs hvalid

/-- both cases occur: in `0-1, 0-1, 1-2` removing a bubble edge lowers the loop number, removing the tail does not -/
example : let top : List (TEdge Nat) := [⟨0, 1, 1, false⟩, ⟨0, 1, 1, false⟩, ⟨1, 2, 1, false⟩]
    loopNumber top [0, 1, 2] = 1 ∧ loopNumber top ([0, 1, 2].erase 1) = 0 ∧ loopNumber top ([0, 1, 2].erase 2) = 1 := by decide

end Momtrop
