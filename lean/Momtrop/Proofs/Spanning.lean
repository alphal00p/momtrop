import Momtrop.Proofs.VConn
/-!
# The mass-momentum spanning flag of an edge list

`isMMSpanning top nm ext s` says two things (`isMMSpanning_iff`): `s` holds `nm` massive edges, which for `nm` the number of massive edges of
the graph means that it holds them all (`mass_spanning_iff`), and one component of `s` touches every external vertex, i.e. the edges
connected to one edge of `s` do (`momentum_spanning_iff`), i.e. - with at least two different external vertices - any two external vertices
are joined inside `s` (`joined_of_component`, `component_of_joined`). Both halves survive adding edges (`isMMSpanning_mono`).
-/
namespace Momtrop

/-- what the flag says, for edges with weights of any type (restated for a `Scalar` as `C03.spanning_iff`) -/
theorem isMMSpanning_iff {α : Type} (top : List (TEdge α)) (nm : Nat) (ext s : List Nat) :
    isMMSpanning top nm ext s = true ↔
      (s.filter (isMassive top)).length = nm ∧
      ∃ c ∈ components top s, ∀ v ∈ ext, ∃ i ∈ Mask.edges top.length c, containsVertex top i v = true := by
  simp only [isMMSpanning, Bool.and_eq_true, beq_iff_eq, List.any_eq_true, List.all_eq_true]

theorem momentum_spanning_iff {α : Type} (top : List (TEdge α)) (ext s : List Nat) (hs : s.Nodup) :
    (∃ c ∈ components top s, ∀ v ∈ ext, ∃ i ∈ Mask.edges top.length c, containsVertex top i v = true) ↔
      ∃ h ∈ s, ∀ v ∈ ext, ∃ i, i < top.length ∧ EdgeConn top s h i ∧ containsVertex top i v = true := by
  obtain ⟨hclass, _, hcover⟩ := componentLists_spec top s hs
  constructor
  · rintro ⟨c, hc, hv⟩
    obtain ⟨cl, hcl, rfl⟩ := List.mem_map.mp hc
    obtain ⟨seed, hseed, hcls⟩ := hclass cl hcl
    refine ⟨seed, hseed, fun v hvext => ?_⟩
    obtain ⟨i, hi, hcv⟩ := hv v hvext
    exact ⟨i, (Mask.mem_edges_ofList.mp hi).1, (hcls i).mp (Mask.mem_edges_ofList.mp hi).2, hcv⟩
  · rintro ⟨h, hh, hv⟩
    obtain ⟨cl, hcl, hhcl⟩ := hcover h hh
    obtain ⟨seed, _, hcls⟩ := hclass cl hcl
    refine ⟨Mask.ofList cl, List.mem_map.mpr ⟨cl, hcl, rfl⟩, fun v hvext => ?_⟩
    obtain ⟨i, hlt, hc, hcv⟩ := hv v hvext
    exact ⟨i, Mask.mem_edges_ofList.mpr ⟨hlt, (hcls i).mpr (((hcls h).mp hhcl).trans hc)⟩, hcv⟩

theorem massive_count_range {α : Type} (top : List (TEdge α)) :
    ((List.range top.length).filter (isMassive top)).length = (top.filter (·.massive)).length := by
  induction top with
  | nil => rfl
  | cons a l ih =>
    have h0 : isMassive (a :: l) 0 = a.massive := rfl
    have hs : (isMassive (a :: l) ∘ Nat.succ) = isMassive l := rfl
    rw [List.length_cons, List.range_succ_eq_map, List.filter_cons, List.filter_cons, List.filter_map, h0, hs]
    cases a.massive <;> simp [ih]

theorem C01.momentum_spanning_mono {α : Type} (top : List (TEdge α)) (ext s' s : List Nat) (hs' : s'.Nodup) (hs : s.Nodup)
    (hsub : ∀ e ∈ s', e ∈ s)
    (h : ∃ c ∈ components top s', ∀ v ∈ ext, ∃ i ∈ Mask.edges top.length c, containsVertex top i v = true) :
    ∃ c ∈ components top s, ∀ v ∈ ext, ∃ i ∈ Mask.edges top.length c, containsVertex top i v = true := by
  obtain ⟨h, hh, hv⟩ := (momentum_spanning_iff top ext s' hs').mp h
  refine (momentum_spanning_iff top ext s hs).mpr ⟨h, hsub h hh, fun v hvext => ?_⟩
  obtain ⟨i, hlt, hc, hcv⟩ := hv v hvext
  exact ⟨i, hlt, edgeConn_subset hsub hc, hcv⟩

theorem mass_spanning_iff {α : Type} (top : List (TEdge α)) (s : List Nat) (hs : s.Nodup) (hvalid : ∀ x ∈ s, x < top.length) :
    (s.filter (isMassive top)).length = ((List.range top.length).filter (isMassive top)).length ↔
      ∀ e, e < top.length → isMassive top e = true → e ∈ s := by
  have hsub : (s.filter (isMassive top)).Subperm ((List.range top.length).filter (isMassive top)) :=
    List.subperm_of_subset (hs.filter _) fun x hx =>
      List.mem_filter.mpr ⟨List.mem_range.mpr (hvalid x (List.mem_filter.mp hx).1), (List.mem_filter.mp hx).2⟩
  constructor
  · intro h e he hm
    -- a duplicate-free part of equal length is the whole
    exact (List.mem_filter.mp ((hsub.perm_of_length_le h.ge).mem_iff.mpr
      (List.mem_filter.mpr ⟨List.mem_range.mpr he, hm⟩))).1
  · intro h
    refine le_antisymm hsub.length_le (List.subperm_of_subset (List.nodup_range.filter _) fun x hx => ?_).length_le
    rw [List.mem_filter, List.mem_range] at hx
    exact List.mem_filter.mpr ⟨h x hx.1 hx.2, hx.2⟩

/-- needs `nm` to be the number of massive edges of the graph: holding exactly `nm` of them is not monotone by itself -/
theorem isMMSpanning_mono {α : Type} (top : List (TEdge α)) (nm : Nat) (ext s' s : List Nat)
    (hnm : nm = ((List.range top.length).filter (isMassive top)).length) (hs' : s'.Nodup) (hs : s.Nodup)
    (hsub : ∀ e ∈ s', e ∈ s) (hvalid : ∀ e ∈ s, e < top.length) (h : isMMSpanning top nm ext s' = true) :
    isMMSpanning top nm ext s = true := by
  rw [isMMSpanning_iff, hnm] at h ⊢
  rw [mass_spanning_iff top s' hs' fun x hx => hvalid x (hsub x hx)] at h
  rw [mass_spanning_iff top s hs hvalid]
  exact ⟨fun e he hm => hsub e (h.1 e he hm), C01.momentum_spanning_mono top ext s' s hs' hs hsub h.2⟩

namespace C07

theorem joined_of_component {α : Type} (top : List (TEdge α)) (ext s : List Nat) (hs : s.Nodup)
    (h : ∃ c ∈ components top s, ∀ v ∈ ext, ∃ i ∈ Mask.edges top.length c, containsVertex top i v = true) :
    ∀ v ∈ ext, ∀ w ∈ ext, VConn top s v w := by
  obtain ⟨h0, hh0, hall⟩ := (momentum_spanning_iff top ext s hs).mp h
  intro v hv w hw
  obtain ⟨iv, _, hcv, hv'⟩ := hall v hv
  obtain ⟨iw, _, hcw, hw'⟩ := hall w hw
  exact Or.inr ⟨iv, edgeConn_mem hh0 hcv, iw, edgeConn_mem hh0 hcw, (containsVertex_iff _ _ _).mp hv',
    (containsVertex_iff _ _ _).mp hw', hcv.symm.trans hcw⟩

theorem component_of_joined {α : Type} (top : List (TEdge α)) (ext s : List Nat) (hs : s.Nodup) (hvalid : ∀ x ∈ s, x < top.length)
    (v0 w0 : Nat) (hv0 : v0 ∈ ext) (hw0 : w0 ∈ ext) (hne : v0 ≠ w0) (hall : ∀ v ∈ ext, ∀ w ∈ ext, VConn top s v w) :
    ∃ c ∈ components top s, ∀ v ∈ ext, ∃ i ∈ Mask.edges top.length c, containsVertex top i v = true := by
  -- an edge `h1` at `v0`; every external vertex has an edge connected to it
  rcases hall v0 hv0 w0 hw0 with h | ⟨h1, hh1, _, _, hv0h1, _, _⟩
  · exact absurd h hne
  · refine (momentum_spanning_iff top ext s hs).mpr ⟨h1, hh1, fun u hu => ?_⟩
    rcases hall v0 hv0 u hu with h | ⟨g1, hg1, g2, hg2, hv0g1, hug2, hc⟩
    · exact ⟨h1, hvalid h1 hh1, Relation.ReflTransGen.refl, (containsVertex_iff _ _ _).mpr (h ▸ hv0h1)⟩
    · exact ⟨g2, hvalid g2 hg2, (edgeConn_of_share hh1 hg1 hv0h1 hv0g1).trans hc, (containsVertex_iff _ _ _).mpr hug2⟩

end C07
end Momtrop
