import Momtrop.Model.Sample
/-!
# `permutahedral` and `sampleCore` read as chains of stages (law-free, core Lean only)

`sampleCore` is a nest of matches (removal loop, decomposition of the `L` matrix, coordinate for the Gamma draw, the
draw, the Gaussian vectors) followed by a record computed from what these returned. `sampleWith` is that nest with the
last step left open, so that `sampleCore` is `sampleWith … sampleOut` by unfolding and the three lemmas about it
(`sampleCore_ok_iff`, `sampleCore_congr`, `sampleWith_map`) walk the nest once each on a term that does not contain the
record. The matrix-error outcome has no lemma here: `C16.sample_reports_matrix_error` unfolds `sampleCore` itself.
-/
namespace Momtrop
open Scalar
variable {α : Type} [Scalar α]

theorem permutahedral_some {T : STable α} {xs : List α} {r : PermResult α} (h : permutahedral T xs = some r) :
    ∃ st, permLoop T xs T.numEdges (Mask.full T.numEdges)
        { kappa := one, x := List.replicate T.numEdges zero, uTr := one, vTr := one, cnt := 0, order := [] } = some st ∧
      r = { x := st.x.map (· * scalingOf T st.uTr st.vTr), xPre := st.x, uTrPre := st.uTr, vTrPre := st.vTr,
            scaling := scalingOf T st.uTr st.vTr, uTr := one, vTr := one, reads := st.cnt, order := st.order } := by
  unfold permutahedral at h
  simp only at h
  split at h
  · cases h
  · next st hp => exact ⟨st, hp, (Option.some.inj h).symm⟩

/-! ## `qVectors`: two nested `mapM` over index ranges -/

theorem mapM_some_getElem {β γ : Type} (f : β → Option γ) :
    ∀ (l : List β) (r : List γ), l.mapM f = some r →
      r.length = l.length ∧ ∀ i (hi : i < l.length) (hr : i < r.length), f l[i] = some r[i] := by
  intro l
  induction l with
  | nil => intro r h; simp at h; subst h; exact ⟨rfl, fun i hi => absurd hi (by simp)⟩
  | cons x xs ih =>
    intro r h
    simp only [List.mapM_cons, Option.bind_eq_bind, Option.bind_eq_some_iff, Option.pure_def, Option.some.injEq] at h
    obtain ⟨y, hx, ys, hxs, rfl⟩ := h
    obtain ⟨hl, hg⟩ := ih ys hxs
    refine ⟨congrArg (· + 1) hl, fun i hi hr => ?_⟩
    cases i with
    | zero => exact hx
    | succ j => exact hg j (Nat.lt_of_succ_lt_succ hi) (Nat.lt_of_succ_lt_succ hr)

theorem mapM_congr_mem {β γ : Type} (f g : β → Option γ) (l : List β) (h : ∀ x ∈ l, f x = g x) :
    l.mapM f = l.mapM g := by
  induction l with
  | nil => rfl
  | cons a as ih =>
    rw [List.mapM_cons, List.mapM_cons, h a List.mem_cons_self, ih (fun x hx => h x (List.mem_cons_of_mem _ hx))]

/-- every pair of coordinates that `qVectors` reads lies inside the `qReads` coordinates after `base` -/
theorem pair_lt_qReads (D L n : Nat) (hn : n < D * L) : 2 * (n / 2) + 1 < qReads D L := by
  unfold qReads
  omega

/-- the last branch of `sampleCore`: the record an `Ok` sample returns, from what the stages before it returned -/
def sampleOut (T : STable α) (D : Nat) (S : List (List Int)) (edgeData : List (Option α × Vec α))
    (st : Settings α) (pr : PermResult α) (dec : Decomp α) (lam : α) (q : List (Vec α)) : SampleResult α :=
  let L := lMatrix pr.x S
  let nL := (S.getD 0 []).length
  let masses := edgeData.map fun d => match d.1 with | some m => m | none => zero
  let shifts := edgeData.map fun d => d.2
  let u := uVectors D pr.x S shifts
  let v := vPolynomial pr.x u dec.inverse nL shifts masses
  let k := loopMomenta D v lam dec.qTInv nL q dec.inverse u
  let jac := powf (pr.uTr / dec.determinant) T.halfD * powf (pr.vTr / v) T.dod * T.cached
  let md : Option (Meta α) :=
    if st.returnMeta then
      some { qVectors := q, lambda := lam, lMatrix := L, decomp := dec, uVectors := u,
             shift := onlyShift D dec.inverse nL u }
    else none
  { loopMomenta := k, uTrop := pr.uTr, vTrop := pr.vTr, u := dec.determinant,
    v := v, jacobian := jac, metadata := md,
    reads := pr.reads + 1 + qReads T.dimension T.numLoops }

/-- the stages of `sample` that can fail, in the order of the code; `k` computes the result from what they return -/
def sampleWith {β : Type} (draw : α → α → Option α) (T : STable α) (xs : List α) (S : List (List Int))
    (stability : Option α) (k : PermResult α → Decomp α → α → List (Vec α) → β) :
    Option (Except SampleErr β) :=
  if xs.isEmpty then none else
  match permutahedral T xs with
  | none => none
  | some pr =>
    match decompose (S.getD 0 []).length (lMatrix pr.x S) stability with
    | .error e => some (.error (.matrix e))
    | .ok dec =>
      match xs[pr.reads]? with
      | none => none
      | some p =>
        match draw T.dod p with
        | none => some (.error .gamma)
        | some lam =>
          match qVectors xs (pr.reads + 1) T.dimension T.numLoops with
          | none => none
          | some q => some (.ok (k pr dec lam q))

theorem sampleCore_eq (draw : α → α → Option α) (T : STable α) (D : Nat) (xs : List α)
    (S : List (List Int)) (ed : List (Option α × Vec α)) (st : Settings α) :
    sampleCore draw T D xs S ed st = sampleWith draw T xs S st.stability (sampleOut T D S ed st) := rfl

theorem sampleCore_ok_iff (draw : α → α → Option α) (T : STable α) (D : Nat) (xs : List α)
    (S : List (List Int)) (ed : List (Option α × Vec α)) (st : Settings α) (res : SampleResult α) :
    sampleCore draw T D xs S ed st = some (.ok res) ↔
      ∃ pr dec p lam q, permutahedral T xs = some pr ∧
        decompose (S.getD 0 []).length (lMatrix pr.x S) st.stability = .ok dec ∧
        xs[pr.reads]? = some p ∧ draw T.dod p = some lam ∧
        qVectors xs (pr.reads + 1) T.dimension T.numLoops = some q ∧
        res = sampleOut T D S ed st pr dec lam q := by
  rw [sampleCore_eq]
  constructor
  · fun_cases sampleWith draw T xs S st.stability (sampleOut T D S ed st)
    case case7 _ pr hpr dec hdec p hp lam hl q hq =>
      intro h
      cases h
      exact ⟨pr, dec, p, lam, q, hpr, hdec, hp, hl, hq, rfl⟩
    -- one case per stage that fails: the result is not `Ok`
    all_goals exact nofun
  · rintro ⟨pr, dec, p, lam, q, hpr, hdec, hp, hl, hq, rfl⟩
    -- a point with a coordinate at `pr.reads` is not empty
    have hx : xs.isEmpty = false := by
      cases xs with
      | nil => cases hp
      | cons _ _ => rfl
    simp only [sampleWith, hx, hpr, hdec, hp, hl, hq, Bool.false_eq_true, if_false]

theorem sampleCore_congr (draw draw' : α → α → Option α) (T : STable α) (D : Nat) (xs ys : List α)
    (S : List (List Int)) (ed : List (Option α × Vec α)) (st : Settings α)
    (hne : xs.isEmpty = ys.isEmpty) (hperm : permutahedral T xs = permutahedral T ys)
    (hrest : ∀ pr, permutahedral T ys = some pr →
      xs[pr.reads]? = ys[pr.reads]? ∧ (∀ p, ys[pr.reads]? = some p → draw T.dod p = draw' T.dod p) ∧
      qVectors xs (pr.reads + 1) T.dimension T.numLoops = qVectors ys (pr.reads + 1) T.dimension T.numLoops) :
    sampleCore draw T D xs S ed st = sampleCore draw' T D ys S ed st := by
  rw [sampleCore_eq, sampleCore_eq]
  unfold sampleWith
  rw [hne, hperm]
  cases hpr : permutahedral T ys with
  | none => rfl
  | some pr =>
    obtain ⟨hp, hdraw, hq⟩ := hrest pr hpr
    dsimp only
    rw [hp, hq]
    cases hp' : ys[pr.reads]? with
    | none => rfl
    | some p =>
      dsimp only
      rw [hdraw p hp']

theorem sampleWith_map {β γ : Type} (f : β → γ) (draw : α → α → Option α) (T : STable α) (xs : List α)
    (S : List (List Int)) (stab : Option α) (k : PermResult α → Decomp α → α → List (Vec α) → β) :
    (sampleWith draw T xs S stab k).map (Except.map f)
      = sampleWith draw T xs S stab fun pr dec lam q => f (k pr dec lam q) := by
  unfold sampleWith
  split
  · rfl
  split
  · rfl
  split
  · rfl
  split
  · rfl
  split
  · rfl
  split <;> rfl

end Momtrop
