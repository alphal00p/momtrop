import Momtrop.Model.Matrix
/-!
# Reading entries of lists built over an index range

The model builds its vectors and matrices as `(List.range n).map f` and loops over `zip`/`enumerate` of lists of one length; both are
read back by index here. Core Lean only.
-/
namespace Momtrop

theorem _root_.List.getD_map_range {β : Type} (n : Nat) (f : Nat → β) (d : β) {i : Nat} (h : i < n) :
    ((List.range n).map f).getD i d = f i := by
  simp [h]

theorem Mat.ofFn_get {α : Type} [Scalar α] (n : Nat) (f : Nat → Nat → α) {i j : Nat} (hi : i < n) (hj : j < n) :
    (Mat.ofFn n f).get i j = f i j := by
  unfold Mat.ofFn Mat.get
  rw [List.getD_map_range n _ _ hi, List.getD_map_range n _ _ hj]

section Zip
variable {α β γ : Type} (n : Nat) (a : List α) (b : List β) (c : List γ) (da : α) (db : β) (dc : γ)

theorem getD_of_lt {i : Nat} (h : i < a.length) : a.getD i da = a[i] := by
  rw [List.getD_eq_getElem?_getD, List.getElem?_eq_getElem h, Option.getD_some]

theorem zip_eq_range (ha : a.length = n) (hb : b.length = n) :
    a.zip b = (List.range n).map fun i => (a.getD i da, b.getD i db) := by
  refine List.ext_getElem (by simp only [List.length_zip, ha, hb, Nat.min_self, List.length_map, List.length_range])
    fun i _ h => ?_
  have hi : i < n := by rwa [List.length_map, List.length_range] at h
  simp only [List.getElem_zip, List.getElem_map, List.getElem_range, getD_of_lt a da (ha ▸ hi), getD_of_lt b db (hb ▸ hi)]

theorem zipIdx_eq_range (ha : a.length = n) : a.zipIdx = (List.range n).map fun i => (a.getD i da, i) := by
  refine List.ext_getElem (by simp only [List.length_zipIdx, ha, List.length_map, List.length_range]) fun i _ h => ?_
  have hi : i < n := by rwa [List.length_map, List.length_range] at h
  simp only [List.getElem_zipIdx, Nat.zero_add, List.getElem_map, List.getElem_range, getD_of_lt a da (ha ▸ hi)]

theorem zip3_eq_range (ha : a.length = n) (hb : b.length = n) (hc : c.length = n) :
    a.zip (b.zip c) = (List.range n).map fun i => (a.getD i da, (b.getD i db, c.getD i dc)) := by
  rw [zip_eq_range n b c db dc hb hc, zip_eq_range n a _ da (db, dc) ha (by rw [List.length_map, List.length_range])]
  exact List.map_congr_left fun i hi => by rw [List.getD_map_range n _ _ (List.mem_range.mp hi)]

theorem zip_zipIdx_eq_range (ha : a.length = n) (hb : b.length = n) :
    (a.zip b).zipIdx = (List.range n).map fun i => ((a.getD i da, b.getD i db), i) := by
  rw [zip_eq_range n a b da db ha hb, zipIdx_eq_range n _ (da, db) (by rw [List.length_map, List.length_range])]
  exact List.map_congr_left fun i hi => by rw [List.getD_map_range n _ _ (List.mem_range.mp hi)]

end Zip
end Momtrop
