import Momtrop.Proofs.Components
import Momtrop.Proofs.MaskLemmas
import Mathlib.Data.Finset.Card
import Mathlib.Data.Finset.Union
/-!
# The loop number of the table is the cyclomatic number `|s| − |V(s)| + #components`

`get_loop_number` adds `1 + num_edges - num_vertices` (on `usize`) over the components. This cannot underflow: a search round only adds
edges that touch a vertex already there, so a component has at most `edges + 1` vertices (`component_verts_le`). Components share no
vertex, so their vertex counts add up to `|V(s)|`.
-/
namespace Momtrop
variable {α : Type}

theorem nodup_eraseDups (l : List Nat) : l.eraseDups.Nodup := by
  induction h : l.length using Nat.strong_induction_on generalizing l with
  | _ n ih =>
    cases l with
    | nil => exact List.nodup_nil
    | cons a as =>
      subst h
      rw [List.eraseDups_cons, List.nodup_cons, List.mem_eraseDups, List.mem_filter]
      exact ⟨fun h => absurd rfl (bne_iff_ne.mp h.2), ih _ (Nat.lt_succ_of_le (List.length_filter_le _ _)) _ rfl⟩

/-- end points of an edge as a finite set -/
def endSet (top : List (TEdge α)) (e : Nat) : Finset Nat := {(endsOf top e).1, (endsOf top e).2}

theorem mem_endSet {top : List (TEdge α)} {e v : Nat} : v ∈ endSet top e ↔ v = (endsOf top e).1 ∨ v = (endsOf top e).2 := by
  rw [endSet, Finset.mem_insert, Finset.mem_singleton]

theorem containsVertex_iff (top : List (TEdge α)) (i v : Nat) : containsVertex top i v = true ↔ v ∈ endSet top i := by
  rw [containsVertex, Bool.or_eq_true, beq_iff_eq, beq_iff_eq, mem_endSet]
  exact or_congr eq_comm eq_comm

/-- the vertices touched by a set of edges -/
def verts (top : List (TEdge α)) (c : List Nat) : Finset Nat := c.toFinset.biUnion (endSet top)

theorem mem_verts {top : List (TEdge α)} {c : List Nat} {v : Nat} : v ∈ verts top c ↔ ∃ e ∈ c, v ∈ endSet top e := by
  simp only [verts, Finset.mem_biUnion, List.mem_toFinset]

theorem vertexSet_length (top : List (TEdge α)) (c : List Nat) : (vertexSet top c).length = (verts top c).card := by
  rw [vertexSet, ← List.toFinset_card_of_nodup (nodup_eraseDups _)]
  refine congrArg Finset.card (Finset.ext fun v => ?_)
  simp only [List.mem_toFinset, List.mem_eraseDups, List.mem_flatMap, List.mem_cons, List.not_mem_nil, or_false, mem_verts,
    mem_endSet]

theorem endSet_card_le (top : List (TEdge α)) (e : Nat) : (endSet top e).card ≤ 2 := Finset.card_le_two

theorem endSet_card_pos (top : List (TEdge α)) (e : Nat) : 0 < (endSet top e).card :=
  Finset.card_pos.mpr (Finset.insert_nonempty _ _)

theorem endSet_eq_pair {top : List (TEdge α)} {e v1 v2 : Nat} (hv1 : v1 ∈ endSet top e) (hv2 : v2 ∈ endSet top e)
    (hne : v1 ≠ v2) : endSet top e = {v1, v2} :=
  (Finset.eq_of_subset_of_card_le (Finset.insert_subset hv1 (Finset.singleton_subset_iff.mpr hv2))
    ((endSet_card_le top e).trans_eq (Finset.card_pair hne).symm)).symm

theorem adj_iff_share (top : List (TEdge α)) (e f : Nat) :
    adj top e f = true ↔ ∃ v, v ∈ endSet top e ∧ v ∈ endSet top f := by
  rw [adj, Bool.or_eq_true, containsVertex_iff, containsVertex_iff]
  simp only [mem_endSet (e := f), and_or_left, exists_or, exists_eq_right]

theorem edgeConn_of_share {top : List (TEdge α)} {s : List Nat} {g h v : Nat} (hg : g ∈ s) (hh : h ∈ s)
    (hvg : v ∈ endSet top g) (hvh : v ∈ endSet top h) : EdgeConn top s g h :=
  Relation.ReflTransGen.single ⟨hg, hh, (adj_iff_share top g h).mpr ⟨v, hvg, hvh⟩⟩

theorem verts_congr (top : List (TEdge α)) {c d : List Nat} (h : ∀ e, e ∈ c ↔ e ∈ d) : verts top c = verts top d := by
  rw [verts, verts, List.toFinset.ext h]

theorem verts_cons (top : List (TEdge α)) (e : Nat) (c : List Nat) : verts top (e :: c) = endSet top e ∪ verts top c := by
  rw [verts, List.toFinset_cons, Finset.biUnion_insert, verts]

theorem verts_append (top : List (TEdge α)) (c d : List Nat) : verts top (c ++ d) = verts top c ∪ verts top d := by
  unfold verts
  rw [List.toFinset_append, Finset.union_biUnion]

theorem verts_card_le_of_touch (top : List (TEdge α)) {c d : List Nat}
    (h : ∀ f ∈ d, f ∉ c → ∃ v ∈ endSet top f, v ∈ verts top c) :
    (verts top d).card ≤ (verts top c).card + (d.toFinset \ c.toFinset).card := by
  -- only the end point of a new edge that is not known to lie in `verts top c` can be new
  let other : Nat → Nat := fun f => if (endsOf top f).1 ∈ verts top c then (endsOf top f).2 else (endsOf top f).1
  have hsub : verts top d ⊆ verts top c ∪ (d.toFinset \ c.toFinset).image other := by
    intro v hv
    by_cases hvc : v ∈ verts top c
    · exact Finset.mem_union_left _ hvc
    · obtain ⟨f, hfd, hvf⟩ := mem_verts.mp hv
      have hfc : f ∉ c := fun hfc => hvc (mem_verts.mpr ⟨f, hfc, hvf⟩)
      obtain ⟨w, hwf, hwc⟩ := h f hfd hfc
      refine Finset.mem_union_right _ (Finset.mem_image.mpr ⟨f, by simp [hfd, hfc], ?_⟩)
      rw [mem_endSet] at hvf hwf
      simp only [other]
      split
      · next h1 =>
        rcases hvf with rfl | rfl
        · exact absurd h1 hvc
        · rfl
      · next h1 =>
        rcases hwf with rfl | rfl
        · exact absurd hwc h1
        · rcases hvf with rfl | rfl
          · rfl
          · exact absurd hwc hvc
  exact (Finset.card_le_card hsub).trans ((Finset.card_union_le _ _).trans (Nat.add_le_add_left Finset.card_image_le _))

theorem component_verts_le (top : List (TEdge α)) (s : List Nat) (hs : s.Nodup) {c : List Nat} (hc : c ∈ componentLists top s) :
    (verts top c).card ≤ c.length + 1 := by
  rw [← List.toFinset_card_of_nodup (componentLists_nodup top s hs c hc)]
  obtain ⟨sd, hsd, _, rfl⟩ := mem_compsLoop hc
  refine (closure_induction (P := fun c => (∀ e ∈ c, e ∈ s) ∧ (verts top c).card ≤ c.toFinset.card + 1)
    (fun c hc => ⟨fun e he => (mem_grow.mp he).1, ?_⟩) _ [sd] ⟨(SearchInv.seed (top := top) hsd).sub, ?_⟩).2
  · have htouch : ∀ f ∈ grow top s c, f ∉ c → ∃ v ∈ endSet top f, v ∈ verts top c := by
      intro f hf _
      obtain ⟨_, e, he, hadj⟩ := mem_grow.mp hf
      obtain ⟨v, hve, hvf⟩ := (adj_iff_share top e f).mp hadj
      exact ⟨v, hvf, mem_verts.mpr ⟨e, he, hve⟩⟩
    have hcg : c.toFinset ⊆ (grow top s c).toFinset := fun e he =>
      List.mem_toFinset.mpr (subset_grow hc.1 e (List.mem_toFinset.mp he))
    rw [← Finset.card_sdiff_add_card_eq_card hcg, Nat.add_assoc, Nat.add_comm]
    exact (verts_card_le_of_touch top htouch).trans (Nat.add_le_add_right hc.2 _)
  · simpa [verts] using endSet_card_le top sd

theorem sum_tree (cs : List (List Nat)) (V : List Nat → Nat) (h : ∀ c ∈ cs, V c ≤ c.length + 1) :
    (cs.map fun c => 1 + c.length - V c).sum + (cs.map V).sum = cs.length + (cs.map List.length).sum := by
  -- term by term `(1 + |c| - V c) + V c = 1 + |c|`
  rw [← List.sum_map_add, List.map_congr_left fun c hc => Nat.sub_add_cancel (Nat.add_comm _ _ ▸ h c hc),
    List.sum_map_add, List.map_const', List.sum_replicate_nat, Nat.mul_one]

theorem verts_flatten_card (top : List (TEdge α)) (cs : List (List Nat))
    (hdis : List.Pairwise (fun c1 c2 => Disjoint (verts top c1) (verts top c2)) cs) :
    (verts top cs.flatten).card = (cs.map fun c => (verts top c).card).sum := by
  induction cs with
  | nil => simp [verts]
  | cons c cs ih =>
    rw [List.pairwise_cons] at hdis
    rw [List.flatten_cons, verts_append, List.map_cons, List.sum_cons, ← ih hdis.2]
    apply Finset.card_union_of_disjoint
    rw [Finset.disjoint_left]
    intro v hv hv'
    obtain ⟨e, he, hve⟩ := mem_verts.mp hv'
    obtain ⟨d, hd, hed⟩ := List.mem_flatten.mp he
    exact Finset.disjoint_left.mp (hdis.1 d hd) hv (mem_verts.mpr ⟨e, hed, hve⟩)

theorem loopNumberComp_ofList (top : List (TEdge α)) {c : List Nat} (hnd : c.Nodup) (hvalid : ∀ e ∈ c, e < top.length) :
    loopNumberComp top (Mask.ofList c) = 1 + c.length - (verts top c).card := by
  have hmem : ∀ e, e ∈ Mask.edges top.length (Mask.ofList c) ↔ e ∈ c := fun e =>
    Mask.mem_edges_ofList.trans ⟨fun h => h.2, fun h => ⟨hvalid e h, h⟩⟩
  unfold loopNumberComp
  simp only
  rw [vertexSet_length, verts_congr top hmem,
    ((List.perm_ext_iff_of_nodup (Mask.edges_nodup top.length _) hnd).mpr hmem).length_eq]

theorem loopNumber_nil (top : List (TEdge α)) : loopNumber top [] = 0 := rfl

theorem loopNumber_cyclomatic (top : List (TEdge α)) (s : List Nat) (hs : s.Nodup)
    (hvalid : ∀ e ∈ s, e < top.length) :
    loopNumber top s + (verts top s).card = s.length + (componentLists top s).length := by
  obtain ⟨hclass, hpair, _⟩ := componentLists_spec top s hs
  have hperm := componentLists_perm top s hs
  set cs := componentLists top s
  have hsub : ∀ c ∈ cs, ∀ e ∈ c, e ∈ s := fun c hc e he => hperm.mem_iff.mp (List.mem_flatten.mpr ⟨c, hc, he⟩)
  have hloop : loopNumber top s = (cs.map fun c => 1 + c.length - (verts top c).card).sum := by
    unfold loopNumber components
    rw [List.map_map]
    exact congrArg List.sum (List.map_congr_left fun c hc =>
      loopNumberComp_ofList top (componentLists_nodup top s hs c hc) fun e he => hvalid e (hsub c hc e he))
  have hlen : (cs.map List.length).sum = s.length := by rw [← List.length_flatten, hperm.length_eq]
  -- edges of different components share no vertex, as they would be adjacent
  have hvdis : List.Pairwise (fun c1 c2 => Disjoint (verts top c1) (verts top c2)) cs := by
    refine (hpair.imp_of_mem fun {c1 c2} h1 h2 hd => ?_)
    rw [Finset.disjoint_left]
    intro v hv1 hv2
    obtain ⟨e1, he1, hve1⟩ := mem_verts.mp hv1
    obtain ⟨e2, he2, hve2⟩ := mem_verts.mp hv2
    obtain ⟨sd, _, hcl⟩ := hclass c1 h1
    exact hd e2 ((hcl e2).mpr (((hcl e1).mp he1).trans
      (edgeConn_of_share (hsub c1 h1 e1 he1) (hsub c2 h2 e2 he2) hve1 hve2))) he2
  have hverts : (verts top s).card = (cs.map fun c => (verts top c).card).sum := by
    rw [← verts_flatten_card top cs hvdis, verts_congr top fun e => hperm.mem_iff]
  rw [hloop, hverts, ← hlen, Nat.add_comm (cs.map List.length).sum]
  exact sum_tree cs (fun c => (verts top c).card) fun c hc => component_verts_le top s hs hc

end Momtrop
