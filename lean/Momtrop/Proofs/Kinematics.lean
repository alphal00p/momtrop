import Momtrop.Model.Sample
import Momtrop.Proofs.MatBridge
import Momtrop.Props.C20
/-!
# The kinematic part of `sample` in exact arithmetic

Section `Abstract`: `L = SᵀXS`, `u = SᵀXp` and completing the square, on Mathlib matrices. Section `Concrete`: the model's lists of
vectors read as Mathlib vectors; the closed forms of `lMatrix`, `uVectors`, `vPolynomial`, `loopMomenta` are in `Props/C08`, `C09`, `C10`.
-/
namespace Momtrop
open Scalar Matrix

section Abstract
variable {E L : ℕ}

/-- the `L` matrix as `Sᵀ · diag(x) · S` -/
noncomputable def lMat (S : Matrix (Fin E) (Fin L) ℝ) (x : Fin E → ℝ) : Matrix (Fin L) (Fin L) ℝ :=
  Sᵀ * diagonal x * S

/-- one spatial component of the `u` vectors -/
noncomputable def uVec (S : Matrix (Fin E) (Fin L) ℝ) (x : Fin E → ℝ) (p : Fin E → ℝ) : Fin L → ℝ :=
  Sᵀ *ᵥ (diagonal x *ᵥ p)

theorem lMat_apply (S : Matrix (Fin E) (Fin L) ℝ) (x : Fin E → ℝ) (i j : Fin L) :
    lMat S x i j = ∑ e, x e * S e i * S e j := by
  rw [lMat, mul_apply]
  exact Finset.sum_congr rfl fun e _ => by rw [mul_diagonal, transpose_apply, mul_comm (S e i)]

theorem lMat_symm (S : Matrix (Fin E) (Fin L) ℝ) (x : Fin E → ℝ) : (lMat S x)ᵀ = lMat S x := by
  simp only [lMat, transpose_mul, transpose_transpose, diagonal_transpose, Matrix.mul_assoc]

theorem uVec_apply (S : Matrix (Fin E) (Fin L) ℝ) (x p : Fin E → ℝ) (l : Fin L) :
    uVec S x p l = ∑ e, S e l * x e * p e := by
  rw [uVec, mulVec, dotProduct]
  exact Finset.sum_congr rfl fun e _ => by rw [mulVec_diagonal, transpose_apply, mul_assoc]

theorem dotProduct_diagonal_mulVec (x w : Fin E → ℝ) : w ⬝ᵥ (diagonal x *ᵥ w) = ∑ e, x e * (w e * w e) := by
  simp only [dotProduct, mulVec_diagonal]
  exact Finset.sum_congr rfl fun e _ => mul_left_comm _ _ _

theorem dotProduct_lMat (S : Matrix (Fin E) (Fin L) ℝ) (x : Fin E → ℝ) (k k' : Fin L → ℝ) :
    (S *ᵥ k) ⬝ᵥ (diagonal x *ᵥ (S *ᵥ k')) = k ⬝ᵥ (lMat S x *ᵥ k') := by
  simp only [lMat, ← mulVec_mulVec, dotProduct_mulVec k Sᵀ, vecMul_transpose]

theorem dotProduct_uVec (S : Matrix (Fin E) (Fin L) ℝ) (x p : Fin E → ℝ) (k : Fin L → ℝ) :
    (S *ᵥ k) ⬝ᵥ (diagonal x *ᵥ p) = k ⬝ᵥ uVec S x p := by
  simp only [uVec, dotProduct_mulVec k Sᵀ, vecMul_transpose]

theorem propSum_expand (S : Matrix (Fin E) (Fin L) ℝ) (x p : Fin E → ℝ) (k : Fin L → ℝ) :
    (S *ᵥ k + p) ⬝ᵥ (diagonal x *ᵥ (S *ᵥ k + p))
      = k ⬝ᵥ (lMat S x *ᵥ k) + 2 * (k ⬝ᵥ uVec S x p) + p ⬝ᵥ (diagonal x *ᵥ p) := by
  have h : p ⬝ᵥ (diagonal x *ᵥ (S *ᵥ k)) = k ⬝ᵥ uVec S x p := by
    rw [← dotProduct_uVec, ← dotProduct_transpose_mulVec, diagonal_transpose]
  rw [mulVec_add, add_dotProduct, dotProduct_add, dotProduct_add, dotProduct_lMat, dotProduct_uVec, h]
  ring

theorem complete_the_square (S : Matrix (Fin E) (Fin L) ℝ) (x p : Fin E → ℝ) (k : Fin L → ℝ)
    (Li : Matrix (Fin L) (Fin L) ℝ) (hinv : lMat S x * Li = 1) :
    (S *ᵥ k + p) ⬝ᵥ (diagonal x *ᵥ (S *ᵥ k + p))
      = (k + Li *ᵥ uVec S x p) ⬝ᵥ (lMat S x *ᵥ (k + Li *ᵥ uVec S x p))
        + (p ⬝ᵥ (diagonal x *ᵥ p) - uVec S x p ⬝ᵥ (Li *ᵥ uVec S x p)) := by
  have hMw : lMat S x *ᵥ (Li *ᵥ uVec S x p) = uVec S x p := by rw [mulVec_mulVec, hinv, one_mulVec]
  have hwMk : (Li *ᵥ uVec S x p) ⬝ᵥ (lMat S x *ᵥ k) = k ⬝ᵥ uVec S x p := by
    rw [← lMat_symm, dotProduct_transpose_mulVec, hMw]
  rw [propSum_expand, mulVec_add, add_dotProduct, dotProduct_add, dotProduct_add, hMw, hwMk,
    dotProduct_comm (Li *ᵥ uVec S x p)]
  ring

theorem quadratic_at_sample (Lm Qti : Matrix (Fin L) (Fin L) ℝ) (q : Fin L → ℝ) (c : ℝ)
    (h : Qtiᵀ * Lm * Qti = 1) :
    (c • (Qti *ᵥ q)) ⬝ᵥ (Lm *ᵥ (c • (Qti *ᵥ q))) = c ^ 2 * (q ⬝ᵥ q) := by
  have : (Qti *ᵥ q) ⬝ᵥ (Lm *ᵥ (Qti *ᵥ q)) = q ⬝ᵥ q := by
    rw [dotProduct_comm, ← dotProduct_transpose_mulVec, mulVec_mulVec, mulVec_mulVec, h, one_mulVec]
  simp only [mulVec_smul, smul_dotProduct, dotProduct_smul, smul_eq_mul, this]
  ring

theorem sym_double_sum (n : Nat) (a : Nat → Nat → ℝ) (hs : ∀ i j, i < n → j < n → a i j = a j i) :
    ∑ i ∈ Finset.range n, ∑ j ∈ Finset.range n, a i j
      = ∑ i ∈ Finset.range n, a i i + ∑ i ∈ Finset.range n, ∑ j ∈ Finset.range n, if i < j then 2 * a i j else 0 := by
  induction n with
  | zero => simp only [Finset.range_zero, Finset.sum_empty, add_zero]
  | succ n ih =>
    -- split off the last row and the last column; the strictly upper part has no entry in the last row
    have hrow : ∑ j ∈ Finset.range n, a n j = ∑ i ∈ Finset.range n, a i n :=
      Finset.sum_congr rfl fun j hj => hs n j n.lt_succ_self (Nat.lt_succ_of_lt (Finset.mem_range.mp hj))
    have hup : ∑ j ∈ Finset.range (n + 1), (if n < j then 2 * a n j else 0) = 0 :=
      Finset.sum_eq_zero fun j hj => if_neg (Nat.le_of_lt_succ (Finset.mem_range.mp hj)).not_gt
    have hcol : ∑ i ∈ Finset.range n, (if i < n then 2 * a i n else 0) = 2 * ∑ i ∈ Finset.range n, a i n := by
      rw [Finset.mul_sum]
      exact Finset.sum_congr rfl fun i hi => if_pos (Finset.mem_range.mp hi)
    rw [Finset.sum_range_succ (fun i => ∑ j ∈ Finset.range (n + 1), if i < j then 2 * a i j else 0), hup]
    simp only [Finset.sum_range_succ, Finset.sum_add_distrib]
    rw [ih fun i j hi hj => hs i j (Nat.lt_succ_of_lt hi) (Nat.lt_succ_of_lt hj), hrow, hcol]
    ring

theorem sum_dotProduct_mulVec {D : ℕ} (U : Fin D → Fin L → ℝ) (A : Matrix (Fin L) (Fin L) ℝ) :
    ∑ i, U i ⬝ᵥ (A *ᵥ U i) = ∑ l, ∑ l', (∑ i, U i l * U i l') * A l l' := by
  simp only [dotProduct, mulVec, Finset.mul_sum, Finset.sum_mul]
  rw [Finset.sum_comm]
  refine Finset.sum_congr rfl fun l _ => ?_
  rw [Finset.sum_comm]
  exact Finset.sum_congr rfl fun l' _ => Finset.sum_congr rfl fun i _ => by ring

end Abstract

section Concrete
variable (x : List ℝ) (S : List (List Int))

/-- signature as a real matrix (`E × L`) -/
noncomputable def Sm : Matrix (Fin S.length) (Fin (S.getD 0 []).length) ℝ := fun e l => (sigGet S e l : ℝ)
/-- Feynman parameters as a vector -/
noncomputable def xv : Fin S.length → ℝ := fun e => x.getD e 0

theorem smul_get_real (v : Vec ℝ) (s : ℝ) (i : Nat) : (Vec.smul v s).get i = v.get i * s := by
  unfold Vec.smul Vec.get
  rw [List.getD_eq_getElem?_getD, List.getD_eq_getElem?_getD, List.getElem?_map]
  cases v[i]? with
  | none => exact (zero_mul s).symm
  | some a => rfl

theorem foldl_range_get {D : Nat} (step : Vec ℝ → Nat → Vec ℝ) (t : Nat → ℝ) (i : Nat)
    (h : ∀ acc k, (step acc k).get i = acc.get i + t k) (n : Nat) :
    ((List.range n).foldl step (Vec.zeros D)).get i = ∑ k ∈ Finset.range n, t k := by
  rw [← sumFrom_range, sumFrom, List.foldl_map, ← C20.zeros_get D i]
  exact (List.foldl_hom (Vec.get · i) fun acc k => (h acc k).symm).symm

/-- shifts, one spatial component, as a vector over the edges -/
noncomputable def pv (S : List (List Int)) (shifts : List (Vec ℝ)) (i : Nat) : Fin S.length → ℝ :=
  fun e => (shifts.getD e []).get i

/-- spatial component `i` of a list of `n` vectors, over the list positions (`pv S shifts i` is `compOf S.length shifts i`) -/
noncomputable def compOf (n : Nat) (vs : List (Vec ℝ)) (i : Nat) : Fin n → ℝ := fun l => (vs.getD l []).get i

theorem dot_eq_sum {D : Nat} (v w : Vec ℝ) (hv : v.length = D) (hw : w.length = D) :
    Vec.dot v w = ∑ i : Fin D, v.get i * w.get i := by
  subst hv
  rw [C20.dot_eq_range_fold v w hw.symm, ← Finset.sum_range fun i => v.get i * w.get i, ← sumFrom_range, sumFrom, List.foldl_map]

theorem mulVec_compOf (n : Nat) (A : Mat ℝ) (vs : List (Vec ℝ)) (i : Nat) (l : Fin n) :
    (M n A *ᵥ compOf n vs i) l = ∑ l' ∈ Finset.range n, A.get l l' * (vs.getD l' []).get i := by
  rw [Finset.sum_range fun l' => A.get l.1 l' * (vs.getD l' []).get i]; rfl

/-- the first loop of `compute_v_polynomial` (masses and shifts) -/
theorem sum_mass_shift (S : List (List Int)) (D : Nat) (xs ms : List ℝ) (sh : List (Vec ℝ))
    (hsD : ∀ e, e < S.length → (sh.getD e []).length = D) :
    (∑ e ∈ Finset.range S.length, (ms.getD e 0 * ms.getD e 0 + Vec.squared (sh.getD e [])) * xs.getD e 0)
      = (∑ e, xv xs S e * (ms.getD e 0 * ms.getD e 0)) + ∑ i : Fin D, pv S sh i ⬝ᵥ (diagonal (xv xs S) *ᵥ pv S sh i) := by
  simp only [dotProduct_diagonal_mulVec]
  rw [Finset.sum_range fun e => (ms.getD e 0 * ms.getD e 0 + Vec.squared (sh.getD e [])) * xs.getD e 0,
    Finset.sum_comm, ← Finset.sum_add_distrib]
  refine Finset.sum_congr rfl fun e _ => ?_
  rw [C20.squared_eq_dot, dot_eq_sum _ _ (hsD e e.2) (hsD e e.2), ← Finset.mul_sum, add_mul, mul_comm,
    mul_comm _ (xs.getD e 0)]
  rfl

/-- the two `L⁻¹` loops of `compute_v_polynomial` (the diagonal, then twice the pairs `i < j`) are one quadratic form -/
theorem sum_quad_compOf (D n : Nat) (u : List (Vec ℝ)) (A : Mat ℝ) (huD : ∀ l, l < n → (u.getD l []).length = D)
    (hsym : SymmOn A n) :
    (∑ l ∈ Finset.range n, Vec.squared (u.getD l []) * A.get l l)
      + (∑ i ∈ Finset.range n, ∑ j ∈ Finset.range n, if i < j then 2 * Vec.dot (u.getD i []) (u.getD j []) * A.get i j else 0)
      = ∑ i : Fin D, compOf n u i ⬝ᵥ (M n A *ᵥ compOf n u i) := by
  have h := sym_double_sum n (fun l l' => Vec.dot (u.getD l []) (u.getD l' []) * A.get l l')
    fun i j hi hj => by rw [hsym i j hi hj, C20.dot_comm mul_comm (u.getD i [])]
  simp only [← C20.squared_eq_dot, ← mul_assoc] at h
  rw [← h, sum_dotProduct_mulVec, Finset.sum_range fun l => ∑ l' ∈ Finset.range n, Vec.dot (u.getD l []) (u.getD l' []) * A.get l l']
  refine Finset.sum_congr rfl fun l _ => ?_
  rw [Finset.sum_range fun l' => Vec.dot (u.getD l.1 []) (u.getD l' []) * A.get l.1 l']
  exact Finset.sum_congr rfl fun l' _ => by rw [dot_eq_sum _ _ (huD l.1 l.2) (huD l'.1 l'.2)]; rfl

end Concrete
end Momtrop
