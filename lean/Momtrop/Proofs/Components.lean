import Momtrop.Model.Graph
import Mathlib.Data.List.Perm.Subperm
import Mathlib.Data.List.Nodup
/-!
# The edge-adjacency search (`get_connected_components`)

One component search (`closure`) returns exactly the edges chained to the seed by shared end points (`closure_eq_conn`): the fuel `|s| + 1`
that the model gives it is enough, because every round but the last adds an edge of `s` (`closure_closed`). The outer loop (`compsLoop`)
returns every such class exactly once (`componentLists_spec`).
-/
namespace Momtrop
variable {α : Type}

theorem adj_refl (top : List (TEdge α)) (e : Nat) : adj top e e = true := by
  rw [adj, containsVertex, beq_iff_eq.mpr rfl, Bool.true_or, Bool.true_or]

theorem adj_symm (top : List (TEdge α)) (e f : Nat) : adj top e f = adj top f e := by
  rw [Bool.eq_iff_iff]
  simp only [adj, containsVertex, Bool.or_eq_true, beq_iff_eq, eq_comm (a := (endsOf top f).1),
    eq_comm (a := (endsOf top f).2)]
  exact or_or_or_comm

def AdjIn (top : List (TEdge α)) (s : List Nat) (e f : Nat) : Prop := e ∈ s ∧ f ∈ s ∧ adj top e f = true

/-- `e` and `f` are connected by a chain of pairwise adjacent edges of `s` -/
def EdgeConn (top : List (TEdge α)) (s : List Nat) (e f : Nat) : Prop :=
  Relation.ReflTransGen (AdjIn top s) e f

theorem AdjIn.symm {top : List (TEdge α)} {s : List Nat} {e f : Nat} (h : AdjIn top s e f) : AdjIn top s f e :=
  ⟨h.2.1, h.1, by rw [adj_symm]; exact h.2.2⟩

theorem EdgeConn.symm {top : List (TEdge α)} {s : List Nat} {e f : Nat} (h : EdgeConn top s e f) :
    EdgeConn top s f e := by
  induction h with
  | refl => exact Relation.ReflTransGen.refl
  | tail _ hstep ih => exact Relation.ReflTransGen.head hstep.symm ih

theorem edgeConn_mem {top : List (TEdge α)} {s : List Nat} {f x : Nat} (hf : f ∈ s) (h : EdgeConn top s f x) : x ∈ s := by
  cases h with
  | refl => exact hf
  | tail _ hstep => exact hstep.2.1

theorem edgeConn_subset {top : List (TEdge α)} {s' s : List Nat} (hsub : ∀ x ∈ s', x ∈ s) {a b : Nat}
    (h : EdgeConn top s' a b) : EdgeConn top s a b :=
  Relation.ReflTransGen.mono (fun x y hxy => ⟨hsub x hxy.1, hsub y hxy.2.1, hxy.2.2⟩) a b h

theorem mem_grow {top : List (TEdge α)} {s comp : List Nat} {f : Nat} :
    f ∈ grow top s comp ↔ f ∈ s ∧ ∃ e ∈ comp, adj top e f = true := by
  rw [grow, List.mem_filter, List.any_eq_true]

theorem subset_grow {top : List (TEdge α)} {s comp : List Nat} (h : ∀ e ∈ comp, e ∈ s) :
    ∀ e ∈ comp, e ∈ grow top s comp := by
  intro e he
  exact mem_grow.mpr ⟨h e he, e, he, adj_refl top e⟩

/-- invariant of the search: members of `s`, all reachable from the seed -/
structure SearchInv (top : List (TEdge α)) (s : List Nat) (seed : Nat) (comp : List Nat) : Prop where
  sub : ∀ e ∈ comp, e ∈ s
  reach : ∀ e ∈ comp, EdgeConn top s seed e

theorem SearchInv.seed {top : List (TEdge α)} {s : List Nat} {seed : Nat} (h : seed ∈ s) : SearchInv top s seed [seed] :=
  ⟨fun _ he => List.mem_singleton.mp he ▸ h, fun _ he => List.mem_singleton.mp he ▸ Relation.ReflTransGen.refl⟩

theorem SearchInv.grow {top : List (TEdge α)} {s : List Nat} {seed : Nat} {comp : List Nat}
    (h : SearchInv top s seed comp) : SearchInv top s seed (grow top s comp) where
  sub := fun e he => (mem_grow.mp he).1
  reach := fun f hf => by
    obtain ⟨hfs, e, he, hadj⟩ := mem_grow.mp hf
    exact (h.reach e he).tail ⟨h.sub e he, hfs, hadj⟩

theorem closure_induction {top : List (TEdge α)} {s : List Nat} {P : List Nat → Prop}
    (hstep : ∀ comp, P comp → P (grow top s comp)) : ∀ fuel comp, P comp → P (closure top s fuel comp) := by
  intro fuel comp h
  fun_induction closure top s fuel comp with
  | case1 => exact h
  | case2 => exact h
  | case3 _ comp _ _ ih => exact ih (hstep comp h)

theorem closure_inv (top : List (TEdge α)) (s : List Nat) (seed : Nat) :
    ∀ fuel comp, SearchInv top s seed comp → SearchInv top s seed (closure top s fuel comp) :=
  closure_induction fun _ h => h.grow

theorem closure_mono (top : List (TEdge α)) (s : List Nat) :
    ∀ fuel comp, (∀ e ∈ comp, e ∈ s) → ∀ e ∈ comp, e ∈ closure top s fuel comp := by
  intro fuel comp hs e he
  exact (closure_induction (P := fun c => (∀ x ∈ c, x ∈ s) ∧ e ∈ c)
    (fun c h => ⟨fun x hx => (mem_grow.mp hx).1, subset_grow h.1 e h.2⟩) fuel comp ⟨hs, he⟩).2

theorem closure_nodup (top : List (TEdge α)) (s : List Nat) (hs : s.Nodup) :
    ∀ fuel comp, comp.Nodup → (closure top s fuel comp).Nodup :=
  closure_induction fun _ _ => hs.filter _

theorem closure_closed (top : List (TEdge α)) (s : List Nat) (hs : s.Nodup) :
    ∀ fuel comp, comp.Nodup → (∀ e ∈ comp, e ∈ s) → s.length < fuel + comp.length →
      ∀ e ∈ closure top s fuel comp, ∀ f ∈ s, adj top e f = true → f ∈ closure top s fuel comp := by
  intro fuel comp
  fun_induction closure top s fuel comp with
  | case1 comp =>
    intro hnd hsub hlen
    rw [Nat.zero_add] at hlen
    exact absurd (List.subperm_of_subset hnd hsub).length_le (Nat.not_le.mpr hlen)
  | case2 _ comp next heq =>
    -- a round that adds nothing leaves a set equal to its own `grow`
    intro hnd hsub _ e he f hf hadj
    exact ((List.subperm_of_subset hnd (subset_grow hsub)).perm_of_length_le (Nat.le_of_eq heq)).mem_iff.mpr
      (mem_grow.mpr ⟨hf, e, he, hadj⟩)
  | case3 _ comp next hne ih =>
    -- otherwise the set has grown and less fuel is needed
    intro hnd hsub hlen
    have hgrown : comp.length < next.length :=
      Nat.lt_of_le_of_ne (List.subperm_of_subset hnd (subset_grow hsub)).length_le (Ne.symm hne)
    rw [Nat.succ_add_eq_add_succ] at hlen
    exact ih (hs.filter _) (fun e he => (mem_grow.mp he).1) (Nat.lt_of_lt_of_le hlen (Nat.add_le_add_left hgrown _))

theorem closure_eq_conn (top : List (TEdge α)) (s : List Nat) (hs : s.Nodup) (seed : Nat) (hseed : seed ∈ s)
    (f : Nat) : f ∈ closure top s (s.length + 1) [seed] ↔ EdgeConn top s seed f := by
  have hinv : SearchInv top s seed [seed] := .seed hseed
  refine ⟨(closure_inv top s seed _ _ hinv).reach f, fun hconn => ?_⟩
  induction hconn with
  | refl => exact closure_mono top s _ _ hinv.sub seed List.mem_cons_self
  | tail _ hstep ih =>
    exact closure_closed top s hs _ [seed] (List.nodup_singleton _) hinv.sub
      (Nat.lt_add_right _ (Nat.lt_succ_self _)) _ ih _ hstep.2.1 hstep.2.2

theorem componentLists_nil (top : List (TEdge α)) : componentLists top [] = [] := rfl

theorem mem_compsLoop {top : List (TEdge α)} {s c : List Nat} {fuel : Nat} {vis : List Nat} :
    c ∈ compsLoop top s fuel vis → ∃ seed ∈ s, seed ∉ vis ∧ c = closure top s (s.length + 1) [seed] := by
  fun_induction compsLoop top s fuel vis with
  | case1 => exact fun h => absurd h List.not_mem_nil
  | case2 => exact fun h => absurd h List.not_mem_nil
  | case3 _ vis seed hf _ ih =>
    intro h
    rcases List.mem_cons.mp h with rfl | h
    · exact ⟨seed, List.mem_of_find?_eq_some hf, by simpa using List.find?_some hf, rfl⟩
    · obtain ⟨sd, h1, h2, h3⟩ := ih h
      exact ⟨sd, h1, fun hv => h2 (List.mem_append_left _ hv), h3⟩

theorem compsLoop_pairwise (top : List (TEdge α)) (s : List Nat) (hs : s.Nodup) (fuel : Nat) (vis : List Nat) :
    List.Pairwise (fun c1 c2 : List Nat => ∀ e, e ∈ c1 → e ∉ c2) (compsLoop top s fuel vis) := by
  fun_induction compsLoop top s fuel vis with
  | case1 => exact List.Pairwise.nil
  | case2 => exact List.Pairwise.nil
  | case3 _ vis seed hf _ ih =>
    refine List.pairwise_cons.mpr ⟨fun c' hc' e hec hec' => ?_, ih⟩
    -- an edge shared with a later list would put that list's seed into the class of `seed`, which is visited by then
    obtain ⟨sd, hsd, hvis, rfl⟩ := mem_compsLoop hc'
    have hseed := List.mem_of_find?_eq_some hf
    have : EdgeConn top s seed sd :=
      ((closure_eq_conn top s hs seed hseed e).mp hec).trans ((closure_eq_conn top s hs sd hsd e).mp hec').symm
    exact hvis (List.mem_append_right _ ((closure_eq_conn top s hs seed hseed sd).mpr this))

theorem compsLoop_cover (top : List (TEdge α)) (s : List Nat) (fuel : Nat) (vis : List Nat) :
    (s.filter fun e => !vis.contains e).length ≤ fuel → ∀ e ∈ s, e ∉ vis → ∃ c ∈ compsLoop top s fuel vis, e ∈ c := by
  fun_induction compsLoop top s fuel vis with
  | case1 vis =>
    intro hlen e he hev
    have := List.length_pos_of_mem (List.mem_filter.mpr ⟨he, by simpa using hev⟩ : e ∈ s.filter fun e => !vis.contains e)
    exact absurd hlen (Nat.not_le.mpr this)
  | case2 _ vis hf => exact fun _ e he hev => absurd (by simpa using List.find?_eq_none.mp hf e he) hev
  | case3 _ vis seed hf c ih =>
    intro hlen e he hev
    by_cases hec : e ∈ c
    · exact ⟨c, List.mem_cons_self, hec⟩
    · -- the seed was unvisited and is visited now: one unvisited edge less, so the remaining fuel suffices
      have hseed := List.mem_of_find?_eq_some hf
      have hsplit : (s.filter fun e => !(vis ++ c).contains e)
          = (s.filter fun e => !vis.contains e).filter fun e => !c.contains e := by
        rw [List.filter_filter]
        exact List.filter_congr fun x _ => by rw [List.contains_append, Bool.not_or, Bool.and_comm]
      have hlt : (s.filter fun e => !(vis ++ c).contains e).length < (s.filter fun e => !vis.contains e).length := by
        rw [hsplit]
        exact List.length_filter_lt_length_iff_exists.mpr
          ⟨seed, List.mem_filter.mpr ⟨hseed, List.find?_some (p := fun e => !vis.contains e) hf⟩,
            by simpa using closure_mono top s _ [seed] (SearchInv.seed (top := top) hseed).sub seed List.mem_cons_self⟩
      obtain ⟨c', hc', hec'⟩ := ih (Nat.le_of_lt_succ (Nat.lt_of_lt_of_le hlt hlen)) e he
        (fun h => (List.mem_append.mp h).elim hev hec)
      exact ⟨c', List.mem_cons_of_mem _ hc', hec'⟩

theorem componentLists_spec (top : List (TEdge α)) (s : List Nat) (hs : s.Nodup) :
    (∀ c ∈ componentLists top s, ∃ seed ∈ s, ∀ f, f ∈ c ↔ EdgeConn top s seed f) ∧
    List.Pairwise (fun c1 c2 : List Nat => ∀ e, e ∈ c1 → e ∉ c2) (componentLists top s) ∧
    (∀ e ∈ s, ∃ c ∈ componentLists top s, e ∈ c) := by
  refine ⟨fun c hc => ?_, compsLoop_pairwise top s hs _ _,
    fun e he => compsLoop_cover top s _ _ (List.length_filter_le _ s) e he List.not_mem_nil⟩
  obtain ⟨sd, hsd, _, rfl⟩ := mem_compsLoop hc
  exact ⟨sd, hsd, closure_eq_conn top s hs sd hsd⟩

theorem componentLists_nodup (top : List (TEdge α)) (s : List Nat) (hs : s.Nodup) : ∀ c ∈ componentLists top s, c.Nodup := by
  intro c hc
  obtain ⟨sd, _, _, rfl⟩ := mem_compsLoop hc
  exact closure_nodup top s hs _ _ (List.nodup_singleton _)

theorem componentLists_perm (top : List (TEdge α)) (s : List Nat) (hs : s.Nodup) : (componentLists top s).flatten.Perm s := by
  obtain ⟨hclass, hpair, hcover⟩ := componentLists_spec top s hs
  refine (List.perm_ext_iff_of_nodup
    (List.nodup_flatten.mpr ⟨componentLists_nodup top s hs, hpair.imp fun h e => h e⟩) hs).mpr fun e =>
      List.mem_flatten.trans ⟨fun ⟨c, hc, he⟩ => ?_, fun he => hcover e he⟩
  obtain ⟨sd, hsd, hcl⟩ := hclass c hc
  exact edgeConn_mem hsd ((hcl e).mp he)

theorem same_component_iff (top : List (TEdge α)) (s : List Nat) (hs : s.Nodup) (e f : Nat) (he : e ∈ s) :
    (∃ c ∈ componentLists top s, e ∈ c ∧ f ∈ c) ↔ EdgeConn top s e f := by
  obtain ⟨h1, _, h3⟩ := componentLists_spec top s hs
  constructor
  · rintro ⟨c, hc, hec, hfc⟩
    obtain ⟨sd, _, hcl⟩ := h1 c hc
    exact ((hcl e).mp hec).symm.trans ((hcl f).mp hfc)
  · intro hconn
    obtain ⟨c, hc, hec⟩ := h3 e he
    obtain ⟨sd, _, hcl⟩ := h1 c hc
    exact ⟨c, hc, hec, (hcl f).mpr (((hcl e).mp hec).trans hconn)⟩

end Momtrop
