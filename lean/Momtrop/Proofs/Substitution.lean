import Mathlib.MeasureTheory.Function.JacobianOneDim
/-!
# Substitution in a one-dimensional integral

Every change of variable in the development (inverse CDF, the power law of one sector step, radius and angle of Box–Muller) runs along a
differentiable `F : s → t` whose inverse `G` is known in closed form. With `G` given, neither injectivity nor the image has to be computed.
-/
open MeasureTheory Set
open scoped ENNReal

namespace Momtrop

variable {s t : Set ℝ} {F F' G : ℝ → ℝ}

/-- `p = F x` -/
theorem lintegral_subst (hs : MeasurableSet s) (hF : ∀ x ∈ s, HasDerivWithinAt F (F' x) s x)
    (hFm : MapsTo F s t) (hGm : MapsTo G t s) (hinv : InvOn G F s t) (f : ℝ → ℝ≥0∞) :
    ∫⁻ p in t, f p = ∫⁻ x in s, ENNReal.ofReal |F' x| * f (F x) := by
  have hb := hinv.bijOn hFm hGm
  rw [← hb.image_eq, lintegral_image_eq_lintegral_abs_deriv_mul hs hF hb.injOn]

/-- `x = G p` -/
theorem lintegral_subst_inv (hs : MeasurableSet s) (hF : ∀ x ∈ s, HasDerivWithinAt F (F' x) s x)
    (hFm : MapsTo F s t) (hGm : MapsTo G t s) (hinv : InvOn G F s t) (f : ℝ → ℝ≥0∞) :
    ∫⁻ p in t, f (G p) = ∫⁻ x in s, ENNReal.ofReal |F' x| * f x := by
  rw [lintegral_subst hs hF hFm hGm hinv]
  exact setLIntegral_congr_fun hs fun x hx => by rw [hinv.1 hx]

end Momtrop
