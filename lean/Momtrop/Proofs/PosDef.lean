import Momtrop.Proofs.MatBridge
import Mathlib.Analysis.Matrix.PosDef
/-!
# Positive definite ⇒ all Cholesky pivots positive (so the C15 theorems hold under the property's own hypothesis)
-/
namespace Momtrop
open Matrix

theorem leading_entry (A : Mat ℝ) (n : Nat) (hsym : SymmOn A n) {k : Nat} (hk : k < n)
    (hpos : ∀ c, c < k → 0 < piv A n c) {i j : Nat} (hi : i ≤ k) (hj : j ≤ k) :
    A.get i j = ∑ c ∈ Finset.range k, q A n i c * q A n j c + if i = k ∧ j = k then piv A n k else 0 := by
  by_cases h : i = k ∧ j = k
  · rw [if_pos h, h.1, h.2, piv, add_sub_cancel]
  · rw [if_neg h, add_zero, chol_dot A n hsym (hi.trans_lt hk) (hj.trans_lt hk) hk.le hpos
      ((not_and_or.mp h).imp hi.lt_of_ne hj.lt_of_ne)]

theorem symmOn_of_posDef (A : Mat ℝ) (n : Nat) (hpd : (M n A).PosDef) : SymmOn A n := fun i j hi hj => by
  have := congrFun (congrFun hpd.1 ⟨i, hi⟩) ⟨j, hj⟩
  rwa [conjTranspose_apply, star_trivial, M_apply, M_apply, eq_comm] at this

theorem pivotsPos_of_posDef (A : Mat ℝ) (n : Nat) (hpd : (M n A).PosDef) : PivotsPos A n := by
  have hsym := symmOn_of_posDef A n hpd
  intro k
  induction k using Nat.strong_induction_on with
  | _ k ih =>
    intro hk
    have hpos : ∀ c, c < k → 0 < piv A n c := fun c hc => ih c hc (hc.trans hk)
    -- the leading block of size `k + 1` is `R Rᵀ + piv k · e_k e_kᵀ`, `R` = the first `k` columns of the factor and a zero
    -- column; so some `v ≠ 0` has `vᵀR = 0`, and the quadratic form of the block at `v` is `piv k · v_k²`
    let R : Matrix (Fin (k + 1)) (Fin (k + 1)) ℝ := of fun i c => if c.1 < k then q A n i.1 c.1 else 0
    have hfact : (M n A).submatrix (Fin.castLE hk) (Fin.castLE hk)
        = R * Rᵀ + single (Fin.last k) (Fin.last k) (piv A n k) := by
      ext i j
      rw [submatrix_apply, M_apply, Fin.val_castLE, Fin.val_castLE,
        leading_entry A n hsym hk hpos (Nat.lt_succ_iff.mp i.2) (Nat.lt_succ_iff.mp j.2), Matrix.add_apply, mul_apply,
        Fin.sum_univ_castSucc, ← Fin.sum_univ_eq_sum_range fun c => q A n i.1 c * q A n j.1 c]
      simp only [eq_comm, of_apply, Fin.val_castSucc, Fin.is_lt, ↓reduceIte, transpose_apply, Fin.val_last,
        lt_self_iff_false, mul_zero, add_zero, single_apply, Fin.ext_iff, R]
    obtain ⟨v, hv0, hv⟩ := exists_vecMul_eq_zero_iff.mpr (det_eq_zero_of_column_eq_zero (A := R) (Fin.last k) fun i => by
      simp only [of_apply, Fin.val_last, lt_self_iff_false, ↓reduceIte, R])
    have h := (hpd.submatrix (Fin.castLE_injective hk)).dotProduct_mulVec_pos hv0
    rw [hfact, add_mulVec, dotProduct_add, star_trivial, ← mulVec_mulVec, dotProduct_mulVec, hv, zero_dotProduct,
      zero_add, single_mulVec, ← Pi.single, dotProduct_single, mul_left_comm] at h
    exact pos_of_mul_pos_left h (mul_self_nonneg _)

end Momtrop
