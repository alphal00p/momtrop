import Momtrop.Proofs.Access
import Momtrop.Proofs.RealInst
import Mathlib.LinearAlgebra.Matrix.Block
/-!
# Cholesky factor of the model (`cholCols`, `cholQ`) in exact arithmetic, for every dimension `n`

The stages never rewrite a finished column (`cholCols_eq_map`), so the factor has final entries `q A n j k` and the loop is a
recurrence in these alone (`q_eq`, `matrix.rs:135-151`). For a symmetric `A` with positive pivots the recurrence gives `Q Qᵀ = A` entry by entry (`chol_dot`).
-/
namespace Momtrop
open Scalar

theorem cholCols_eq_map {α : Type} [Scalar α] (A : Mat α) (n m : Nat) :
    cholCols A n m = (List.range m).map fun k => newCol A n (cholCols A n k) k := by
  induction m with
  | zero => rfl
  | succ m ih => rw [List.range_succ, List.map_append, ← ih]; rfl

theorem cholCols_length (A : Mat ℝ) (n m : Nat) : (cholCols A n m).length = m := by
  rw [cholCols_eq_map, List.length_map, List.length_range]

theorem cholCols_getD_stable (A : Mat ℝ) (n : Nat) {k m : Nat} (h : k < m) :
    (cholCols A n m).getD k [] = newCol A n (cholCols A n k) k := by
  rw [cholCols_eq_map A n m, List.getD_map_range m _ _ h]

/-- the final factor entry -/
noncomputable def q (A : Mat ℝ) (n j k : Nat) : ℝ := qEntry (cholCols A n n) j k

theorem qEntry_stage (A : Mat ℝ) (n : Nat) {k m : Nat} (h : k < m) (j : Nat) :
    qEntry (cholCols A n m) j k = (newCol A n (cholCols A n k) k).getD j 0 := by
  unfold qEntry; rw [cholCols_getD_stable A n h]; rfl

theorem qEntry_eq_q (A : Mat ℝ) (n : Nat) {k m : Nat} (h : k < m) (hm : m ≤ n) (j : Nat) :
    qEntry (cholCols A n m) j k = q A n j k := by
  unfold q; rw [qEntry_stage A n h, qEntry_stage A n (lt_of_lt_of_le h hm)]

theorem getD_map_range (n : Nat) (f : Nat → ℝ) {j : Nat} (hj : j < n) :
    ((List.range n).map f).getD j 0 = f j :=
  List.getD_map_range n f 0 hj

theorem stage_sum (A : Mat ℝ) (n : Nat) {k : Nat} (hk : k ≤ n) (a b : Nat) :
    ((List.range k).map fun c => qEntry (cholCols A n k) a c * qEntry (cholCols A n k) b c).sum
      = ∑ c ∈ Finset.range k, q A n a c * q A n b c := by
  rw [list_sum_range_eq]
  refine Finset.sum_congr rfl fun c hc => ?_
  rw [qEntry_eq_q A n (Finset.mem_range.mp hc) hk, qEntry_eq_q A n (Finset.mem_range.mp hc) hk]

/-- the pivot (argument of the square root) of column `k` -/
noncomputable def piv (A : Mat ℝ) (n k : Nat) : ℝ :=
  A.get k k - ∑ c ∈ Finset.range k, q A n k c * q A n k c

theorem q_eq (A : Mat ℝ) (n : Nat) {j k : Nat} (hk : k < n) (hj : j < n) :
    q A n j k = if j < k then 0 else if j = k then Real.sqrt (piv A n k)
      else (A.get k j - ∑ c ∈ Finset.range k, q A n k c * q A n j c) / Real.sqrt (piv A n k) := by
  unfold q
  rw [qEntry_stage A n hk]
  unfold newCol
  rw [getD_map_range n _ hj, subFold_eq, subFold_eq, stage_sum A n hk.le, stage_sum A n hk.le]
  rfl

theorem q_upper (A : Mat ℝ) (n : Nat) {j k : Nat} (hjk : j < k) (hk : k < n) : q A n j k = 0 := by
  rw [q_eq A n hk (hjk.trans hk), if_pos hjk]

theorem q_diag (A : Mat ℝ) (n : Nat) {k : Nat} (hk : k < n) : q A n k k = Real.sqrt (piv A n k) := by
  rw [q_eq A n hk hk, if_neg (lt_irrefl k), if_pos rfl]

theorem q_lower (A : Mat ℝ) (n : Nat) {j k : Nat} (hkj : k < j) (hj : j < n) :
    q A n j k = (A.get k j - ∑ c ∈ Finset.range k, q A n k c * q A n j c) / q A n k k := by
  rw [q_diag A n (hkj.trans hj), q_eq A n (hkj.trans hj) hj, if_neg hkj.not_gt, if_neg hkj.ne']

/-- pivots positive: the explicit hypothesis under which Cholesky succeeds -/
def PivotsPos (A : Mat ℝ) (n : Nat) : Prop := ∀ k, k < n → 0 < piv A n k

/-- symmetric on the index range -/
def SymmOn (A : Mat ℝ) (n : Nat) : Prop := ∀ i j, i < n → j < n → A.get i j = A.get j i

theorem q_diag_pos (A : Mat ℝ) (n : Nat) {k : Nat} (hk : k < n) (h : 0 < piv A n k) : 0 < q A n k k := by
  rw [q_diag A n hk]; exact Real.sqrt_pos.mpr h

theorem chol_dot_upper (A : Mat ℝ) (n : Nat) {i j k : Nat} (hij : i ≤ j) (hj : j < n) (hik : i < k) (hk : k ≤ n)
    (hpos : 0 < piv A n i) : ∑ c ∈ Finset.range k, q A n i c * q A n j c = A.get i j := by
  have hi : i < n := lt_of_le_of_lt hij hj
  have hcut : ∑ c ∈ Finset.range (i + 1), q A n i c * q A n j c = ∑ c ∈ Finset.range k, q A n i c * q A n j c := by
    refine Finset.sum_subset (Finset.range_subset_range.mpr hik) fun c hc hc' => ?_
    rw [Finset.mem_range] at hc hc'
    rw [q_upper A n (not_lt.mp hc') (hc.trans_le hk), zero_mul]
  rw [← hcut, Finset.sum_range_succ]
  rcases Nat.eq_or_lt_of_le hij with rfl | hlt
  · rw [q_diag A n hi, Real.mul_self_sqrt hpos.le, piv, add_sub_cancel]
  · rw [q_lower A n hlt hj, mul_div_cancel₀ _ (q_diag_pos A n hi hpos).ne', add_sub_cancel]

theorem chol_row_dot (A : Mat ℝ) (n : Nat) (hp : PivotsPos A n) {i j : Nat} (hij : i ≤ j) (hj : j < n) :
    ∑ k ∈ Finset.range n, q A n i k * q A n j k = A.get i j :=
  have hi : i < n := lt_of_le_of_lt hij hj
  chol_dot_upper A n hij hj hi le_rfl (hp i hi)

theorem chol_dot (A : Mat ℝ) (n : Nat) (hsym : SymmOn A n) {i j k : Nat} (hi : i < n) (hj : j < n) (hk : k ≤ n)
    (hpos : ∀ c, c < k → 0 < piv A n c) (h : i < k ∨ j < k) :
    ∑ c ∈ Finset.range k, q A n i c * q A n j c = A.get i j := by
  rcases le_total i j with hij | hji
  · have hik : i < k := h.elim id hij.trans_lt
    exact chol_dot_upper A n hij hj hik hk (hpos i hik)
  · have hjk : j < k := h.elim hji.trans_lt id
    rw [hsym i j hi hj, ← chol_dot_upper A n hji hi hjk hk (hpos j hjk)]
    exact Finset.sum_congr rfl fun c _ => mul_comm _ _

/-- view a model matrix (total accessor) as a Mathlib matrix -/
noncomputable def toMatrix (n : Nat) (f : Nat → Nat → ℝ) : Matrix (Fin n) (Fin n) ℝ :=
  Matrix.of fun i j => f i j

theorem chol_mul_transpose (A : Mat ℝ) (n : Nat) (hp : PivotsPos A n) (hsym : SymmOn A n) :
    toMatrix n (q A n) * (toMatrix n (q A n)).transpose = toMatrix n A.get := by
  ext i j
  simp only [Matrix.mul_apply, Matrix.transpose_apply, toMatrix, Matrix.of_apply]
  rw [← Finset.sum_range (fun k => q A n i.1 k * q A n j.1 k)]
  exact chol_dot A n hsym i.2 j.2 le_rfl (fun c hc => hp c hc) (Or.inl i.2)

theorem q_lowerTriangular (A : Mat ℝ) (n : Nat) : (toMatrix n (q A n)).IsLowerTriangular := by
  intro i j hij
  simp only [toMatrix, Matrix.of_apply]
  exact q_upper A n (Fin.lt_def.mp hij) j.2

theorem det_eq_sq_prod_diag (A : Mat ℝ) (n : Nat) (hp : PivotsPos A n) (hsym : SymmOn A n) :
    (toMatrix n A.get).det = (∏ k : Fin n, q A n k k) * (∏ k : Fin n, q A n k k) := by
  rw [← chol_mul_transpose A n hp hsym, Matrix.det_mul, Matrix.det_transpose,
    Matrix.det_of_isLowerTriangular _ (q_lowerTriangular A n)]
  rfl

end Momtrop
