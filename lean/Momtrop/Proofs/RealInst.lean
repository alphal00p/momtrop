import Momtrop.Model.Scalar
import Mathlib.Analysis.SpecialFunctions.Pow.Real
/-!
# The reference instantiation `Scalar ℝ` (exact arithmetic)

`ofF64` is the exact real value of the binary64 bit pattern; NaN/∞ patterns get the value their fields would have as finite
numbers, and theorems that care exclude them by hypothesis.
-/
namespace Momtrop

/-- exact value of a binary64 bit pattern, read as sign / biased exponent / mantissa -/
noncomputable def f64ToReal (b : UInt64) : ℝ :=
  let n : ℕ := b.toNat
  let s : ℕ := n / 2 ^ 63
  let e : ℕ := (n / 2 ^ 52) % 2 ^ 11
  let m : ℕ := n % 2 ^ 52
  let mag : ℝ := if e = 0 then (m : ℝ) * (2 : ℝ) ^ (-1074 : ℤ)
                 else ((2 ^ 52 + m : ℕ) : ℝ) * (2 : ℝ) ^ ((e : ℤ) - 1075)
  if s = 0 then mag else -mag

noncomputable instance instScalarReal : Scalar ℝ where
  zero := 0
  one := 1
  pi := Real.pi
  sqrt := Real.sqrt
  ln := Real.log
  exp := Real.exp
  cos := Real.cos
  sin := Real.sin
  abs := fun x => |x|
  inv := fun x => x⁻¹
  powf := fun x y => x ^ y
  ofInt := fun n => (n : ℝ)
  ofF64 := f64ToReal
  decLe := fun _ _ => Classical.dec _
  decLt := fun _ _ => Classical.dec _
  beq := fun a b => @decide (a = b) (Classical.dec _)

namespace Scalar
@[simp] theorem zero_real : (Scalar.zero : ℝ) = 0 := rfl
@[simp] theorem one_real : (Scalar.one : ℝ) = 1 := rfl
@[simp] theorem pi_real : (Scalar.pi : ℝ) = Real.pi := rfl
@[simp] theorem sqrt_real (x : ℝ) : Scalar.sqrt x = Real.sqrt x := rfl
@[simp] theorem ln_real (x : ℝ) : Scalar.ln x = Real.log x := rfl
@[simp] theorem exp_real (x : ℝ) : Scalar.exp x = Real.exp x := rfl
@[simp] theorem cos_real (x : ℝ) : Scalar.cos x = Real.cos x := rfl
@[simp] theorem sin_real (x : ℝ) : Scalar.sin x = Real.sin x := rfl
@[simp] theorem abs_real (x : ℝ) : Scalar.abs x = |x| := rfl
@[simp] theorem inv_real (x : ℝ) : Scalar.inv x = x⁻¹ := rfl
@[simp] theorem powf_real (x y : ℝ) : Scalar.powf x y = x ^ y := rfl
@[simp] theorem ofInt_real (n : Int) : (Scalar.ofInt n : ℝ) = (n : ℝ) := rfl
@[simp] theorem beq_real (a b : ℝ) : Scalar.beq a b = true ↔ a = b := by
  simp [Scalar.beq]
@[simp] theorem geB_real (a b : ℝ) : geB a b = true ↔ b ≤ a := decide_eq_true_iff
@[simp] theorem gtB_real (a b : ℝ) : gtB a b = true ↔ b < a := decide_eq_true_iff
@[simp] theorem leB_real (a b : ℝ) : leB a b = true ↔ a ≤ b := decide_eq_true_iff
@[simp] theorem ltB_real (a b : ℝ) : ltB a b = true ↔ a < b := decide_eq_true_iff

theorem subFold_eq (init : ℝ) (l : List ℝ) : subFold init l = init - l.sum := by
  unfold subFold
  induction l generalizing init with
  | nil => simp
  | cons x xs ih => rw [List.foldl_cons, ih, List.sum_cons, sub_sub]

theorem sumFrom_eq (init : ℝ) (l : List ℝ) : sumFrom init l = init + l.sum := by
  exact List.foldl_eq_apply_foldr

theorem sumIter_eq (l : List ℝ) : sumIter l = l.sum :=
  (sumFrom_eq (-0) l).trans (by rw [neg_zero, zero_add])

theorem mulFold_eq (init : ℝ) (l : List ℝ) : mulFold init l = init * l.prod := by
  exact List.foldl_eq_apply_foldr

theorem prodIter_eq (l : List ℝ) : prodIter l = l.prod :=
  (mulFold_eq 1 l).trans (one_mul _)

end Scalar

theorem list_sum_range_eq (f : Nat → ℝ) (n : Nat) :
    ((List.range n).map f).sum = ∑ k ∈ Finset.range n, f k :=
  rfl

theorem list_prod_range_eq (f : Nat → ℝ) (n : Nat) :
    ((List.range n).map f).prod = ∏ k ∈ Finset.range n, f k :=
  rfl

theorem Scalar.sumFrom_range (f : Nat → ℝ) (n : Nat) :
    Scalar.sumFrom Scalar.zero ((List.range n).map f) = ∑ k ∈ Finset.range n, f k :=
  (Scalar.sumFrom_eq _ _).trans (zero_add _)

/-- the loop over the pairs `i < j` (`for i in 0..n { for j in i+1..n { … } }`) -/
theorem sum_flatMap_pairs (n : Nat) (t : Nat → Nat → ℝ) :
    ((List.range n).flatMap fun i => ((List.range n).filter (fun j => i < j)).map fun j => t i j).sum
      = ∑ i ∈ Finset.range n, ∑ j ∈ Finset.range n, if i < j then t i j else 0 := by
  rw [List.flatMap_def, List.sum_flatten, List.map_map, list_sum_range_eq]
  refine Finset.sum_congr rfl fun i _ => ?_
  rw [Function.comp_apply, ← list_sum_range_eq, List.sum_map_ite, List.sum_map_zero, add_zero]

end Momtrop
