import Momtrop.Model.Table
import Momtrop.Proofs.MaskLemmas
/-!
# The memoised J recursion equals the direct recursion (law-free, core Lean only)

`Jval` is the direct recursion with exactly enough fuel; its value at the empty id (`Jval_zero`) and its one-step
unfolding `C04.J_rec` are all that later files need of it. `fillJ_spec` shows that the memoised fill computes `Jval` while keeping the table
closed under taking subgraphs (`MemoInv`).
-/
namespace Momtrop
open Scalar
variable {α : Type} [Scalar α]

theorem card_induction {n : Nat} {P : Nat → Mask → Prop} (zero : P 0 0)
    (succ : ∀ k g, g < 2 ^ n → g ≠ 0 → card n g = k + 1 →
      (∀ e, e ∈ Mask.edges n g → P k (Mask.pop g e)) → P (k + 1) g) :
    ∀ k g, g < 2 ^ n → card n g = k → P k g := by
  intro k
  induction k with
  | zero => intro g hg hc; rw [(card_eq_zero hg).mp hc]; exact zero
  | succ k ih =>
    intro g hg hc
    refine succ k g hg (fun h0 => ?_) hc fun e he =>
      ih _ (Mask.pop_lt_of_mem hg he) (Nat.succ.inj ((card_pop he).trans hc))
    rw [(card_eq_zero hg).mpr h0] at hc
    cases hc

theorem jSpec_succ (omega : Mask → α) (n fuel : Nat) (g : Mask) (hg : g ≠ 0) :
    jSpec omega n (fuel + 1) g
      = sumIter ((Mask.edges n g).map fun e => jSpec omega n fuel (Mask.pop g e) / omega (Mask.pop g e)) := by
  rw [jSpec, if_neg (mt (isEmpty_iff g).mp hg)]

theorem jSpec_zero_mask (omega : Mask → α) (n fuel : Nat) : jSpec omega n fuel 0 = one := by
  cases fuel <;> rfl

/-- the value the recursion assigns to `g` -/
def Jval (omega : Mask → α) (n : Nat) (g : Mask) : α := jSpec omega n (card n g) g

theorem Jval_zero (omega : Mask → α) (n : Nat) : Jval omega n 0 = one :=
  jSpec_zero_mask omega n _

/-- the recursion, in the implementation's summation order -/
theorem C04.J_rec (omega : Mask → α) (n : Nat) (g : Mask) (hg : g < 2 ^ n) (h0 : g ≠ 0) :
    Jval omega n g = sumIter ((Mask.edges n g).map fun e => Jval omega n (Mask.pop g e) / omega (Mask.pop g e)) := by
  obtain ⟨c, hc⟩ := Nat.exists_eq_succ_of_ne_zero (mt (card_eq_zero hg).mp h0)
  unfold Jval
  rw [hc, jSpec_succ omega n c g h0]
  exact congrArg sumIter (List.map_congr_left fun e he => by rw [Nat.succ.inj ((card_pop he).trans hc)])

/-- the amount of fuel in `Jval` is immaterial: any fuel `≥ card n g` gives the same value -/
theorem jSpec_fuel (omega : Mask → α) (n : Nat) :
    ∀ (f : Nat) (g : Mask), g < 2 ^ n → card n g ≤ f → jSpec omega n f g = jSpec omega n (card n g) g := by
  intro f
  induction f with
  | zero =>
    intro g _ h
    rw [Nat.le_zero.mp h]
  | succ f ih =>
    intro g hlt h
    by_cases hg : g = 0
    · subst hg; rw [jSpec_zero_mask, jSpec_zero_mask]
    · rw [jSpec_succ omega n f g hg]
      refine Eq.trans ?_ (C04.J_rec omega n g hlt hg).symm
      refine congrArg sumIter (List.map_congr_left fun e he => ?_)
      rw [ih _ (Mask.pop_lt_of_mem hlt he) (Nat.le_of_succ_le_succ (Nat.le_trans (Nat.le_of_eq (card_pop he)) h)), Jval]

/-- `h ⊆ g` as edge sets -/
def Sub (h g : Mask) : Prop := ∀ e, Mask.hasEdge h e = true → Mask.hasEdge g e = true

theorem Sub.refl (g : Mask) : Sub g g := fun _ h => h

theorem Sub.testBit {h g : Mask} (hs : Sub h g) {i : Nat} (hi : h.testBit i = true) : g.testBit i = true :=
  (Mask.hasEdge_iff g i).symm.trans (hs i ((Mask.hasEdge_iff h i).trans hi))

theorem sub_zero {h : Mask} (hs : Sub h 0) : h = 0 :=
  Decidable.byContradiction fun h0 => by
    obtain ⟨i, hi⟩ := Nat.exists_testBit_of_ne_zero h0
    have := hs.testBit hi
    rw [Nat.zero_testBit] at this
    cases this

theorem sub_lt {n : Nat} {h g : Mask} (hg : g < 2 ^ n) (hs : Sub h g) : h < 2 ^ n := by
  apply Nat.lt_pow_two_of_testBit
  intro i hi
  exact eq_false_of_ne_true fun hb =>
    absurd (Mask.mem_edges.mp (Mask.mem_edges_of_testBit hg (hs.testBit hb))).1 (Nat.not_lt.mpr hi)

theorem sub_full {n : Nat} {h : Mask} (hh : h < 2 ^ n) : Sub h (Mask.full n) := by
  intro e he
  have hlt := (Mask.mem_edges.mp (Mask.mem_edges_of_testBit hh ((Mask.hasEdge_iff h e).symm.trans he))).1
  have : e ∈ Mask.edges n (Mask.full n) := by rw [Mask.edges_full]; exact List.mem_range.mpr hlt
  exact (Mask.mem_edges.mp this).2

theorem sub_proper {n : Nat} {h g : Mask} (hg : g < 2 ^ n) (hs : Sub h g) (hne : h ≠ g) :
    ∃ e, e ∈ Mask.edges n g ∧ Sub h (Mask.pop g e) := by
  obtain ⟨i, hi⟩ := Nat.exists_testBit_ne_of_ne hne
  -- the two ids differ at bit `i` and `h ⊆ g`: the bit is set in `g` and clear in `h`
  have hhi : Nat.testBit h i = false := eq_false_of_ne_true fun hb => hi (hb.trans (hs.testBit hb).symm)
  have hgi : Nat.testBit g i = true := eq_true_of_ne_false fun hc => hi (hhi.trans hc.symm)
  refine ⟨i, Mask.mem_edges_of_testBit hg hgi, fun f hf => ?_⟩
  rw [Mask.hasEdge_pop]
  by_cases hif : i = f
  · subst hif; rw [Mask.hasEdge_iff, hhi] at hf; cases hf
  · rw [if_neg hif]; exact hs f hf

structure MemoInv (omega : Mask → α) (n : Nat) (memo : List (Option α)) : Prop where
  len : memo.length = 2 ^ n
  /-- every stored value is the recursion's value -/
  ok : ∀ g j, memo.getD g none = some j → j = Jval omega n g
  /-- a stored subgraph has all its subgraphs stored -/
  closed : ∀ g h, g < 2 ^ n → (memo.getD g none).isSome = true → Sub h g → (memo.getD h none).isSome = true

omit [Scalar α] in
theorem getD_set_self {memo : List (Option α)} {g : Nat} (v : Option α) (hg : g < memo.length) :
    (memo.set g v).getD g none = v := by
  rw [List.getD_eq_getElem?_getD, List.getElem?_set_self hg]
  rfl

omit [Scalar α] in
theorem getD_set_ne (memo : List (Option α)) {g h : Nat} (v : Option α) (hne : h ≠ g) :
    (memo.set g v).getD h none = memo.getD h none := by
  rw [List.getD_eq_getElem?_getD, List.getD_eq_getElem?_getD, List.getElem?_set_ne (Ne.symm hne)]

omit [Scalar α] in
theorem isSome_getD_set {memo : List (Option α)} {g : Nat} (v : α) (hg : g < memo.length) (h : Nat) :
    ((memo.set g (some v)).getD h none).isSome = true ↔ h = g ∨ (memo.getD h none).isSome = true := by
  by_cases hh : h = g
  · rw [hh, getD_set_self _ hg]
    exact ⟨fun _ => .inl rfl, fun _ => rfl⟩
  · rw [getD_set_ne memo _ hh]
    exact ⟨.inr, fun h' => h'.resolve_left hh⟩

/-- What one call of the memoised fill guarantees. -/
structure FillPost (omega : Mask → α) (n : Nat) (g : Mask) (memo : List (Option α))
    (r : α × List (Option α)) : Prop where
  val : r.1 = Jval omega n g
  inv : MemoInv omega n r.2
  stored : r.2.getD g none = some (Jval omega n g)
  mono : ∀ h, (memo.getD h none).isSome = true → (r.2.getD h none).isSome = true

theorem inv_set (omega : Mask → α) (n : Nat) (memo : List (Option α)) (hinv : MemoInv omega n memo)
    (g : Mask) (hg : g < 2 ^ n)
    (hsubs : ∀ h, Sub h g → h ≠ g → (memo.getD h none).isSome = true) :
    MemoInv omega n (memo.set g (some (Jval omega n g))) := by
  have hlen : g < memo.length := by rw [hinv.len]; exact hg
  refine ⟨by rw [List.length_set, hinv.len], fun k j hk => ?_, fun k h hk hks hsub => ?_⟩
  · by_cases hkg : k = g
    · rw [hkg, getD_set_self _ hlen] at hk
      rw [hkg, Option.some.inj hk]
    · rw [getD_set_ne memo _ hkg] at hk
      exact hinv.ok k j hk
  · rw [isSome_getD_set _ hlen] at hks ⊢
    by_cases hhg : h = g
    · exact .inl hhg
    · refine .inr ?_
      rcases hks with rfl | hks
      · exact hsubs h hsub hhg
      · exact hinv.closed k h hk hks hsub

/-- `memo` is the table the call on `g` started from, `m` the table after the calls on the `g∖e`. -/
theorem fillPost_set (omega : Mask → α) (n : Nat) (g : Mask) (memo m : List (Option α))
    (hinv : MemoInv omega n m) (hg : g < 2 ^ n)
    (hsubs : ∀ h, Sub h g → h ≠ g → (m.getD h none).isSome = true)
    (hmono : ∀ h, (memo.getD h none).isSome = true → (m.getD h none).isSome = true) :
    FillPost omega n g memo (Jval omega n g, m.set g (some (Jval omega n g))) := by
  have hlen : g < m.length := by rw [hinv.len]; exact hg
  exact ⟨rfl, inv_set omega n m hinv g hg hsubs, getD_set_self _ hlen,
    fun h hh => (isSome_getD_set _ hlen h).mpr (.inr (hmono h hh))⟩

theorem fillJ_zero_mask (omega : Mask → α) (n fuel : Nat) (memo : List (Option α)) :
    fillJ omega n fuel 0 memo = (one, memo.set 0 (some one)) := by
  cases fuel <;> rfl

theorem fillPost_zero (omega : Mask → α) (n fuel : Nat) (memo : List (Option α)) (hinv : MemoInv omega n memo) :
    FillPost omega n 0 memo (fillJ omega n fuel 0 memo) := by
  rw [fillJ_zero_mask, ← Jval_zero omega n]
  exact fillPost_set omega n 0 memo memo hinv (Nat.two_pow_pos n) (fun h hs hne => absurd (sub_zero hs) hne)
    (fun _ hh => hh)

/-- The fold over the edges of `g` in `fillJ`, with the recursive call replaced by any `call` that meets `FillPost`
on the subgraphs `g∖e`. -/
theorem fill_fold (omega : Mask → α) (n : Nat) (g : Mask)
    (call : Mask → List (Option α) → α × List (Option α))
    (hcall : ∀ e, e ∈ Mask.edges n g → ∀ m, MemoInv omega n m → FillPost omega n (Mask.pop g e) m (call (Mask.pop g e) m)) :
    ∀ (es : List Nat) (a : α) (m : List (Option α)), (∀ e, e ∈ es → e ∈ Mask.edges n g) → MemoInv omega n m →
      let res := es.foldl (fun acc e => (acc.1 + (call (Mask.pop g e) acc.2).1 / omega (Mask.pop g e),
                                          (call (Mask.pop g e) acc.2).2)) (a, m)
      res.1 = es.foldl (fun acc e => acc + Jval omega n (Mask.pop g e) / omega (Mask.pop g e)) a ∧
      MemoInv omega n res.2 ∧
      (∀ h, (m.getD h none).isSome = true → (res.2.getD h none).isSome = true) ∧
      (∀ e, e ∈ es → (res.2.getD (Mask.pop g e) none).isSome = true) := by
  intro es
  induction es with
  | nil => intro a m _ hm; exact ⟨rfl, hm, fun _ hh => hh, fun _ he => absurd he List.not_mem_nil⟩
  | cons e es ih =>
    intro a m hmem hm
    have post := hcall e (hmem e List.mem_cons_self) m hm
    obtain ⟨h1, h2, h3, h4⟩ := ih (a + (call (Mask.pop g e) m).1 / omega (Mask.pop g e)) (call (Mask.pop g e) m).2
      (fun x hx => hmem x (List.mem_cons_of_mem _ hx)) post.inv
    refine ⟨h1.trans (by rw [post.val]; rfl), h2, fun h hh => h3 h (post.mono h hh), fun x hx => ?_⟩
    rcases List.mem_cons.mp hx with rfl | hx'
    · exact h3 _ (by rw [post.stored]; rfl)
    · exact h4 x hx'

/-- Soundness of `recursive_fill_j_function` for every call, not only the top-level one (`C04.memo_sound`). -/
theorem fillJ_spec (omega : Mask → α) (n : Nat) :
    ∀ (fuel : Nat) (g : Mask) (memo : List (Option α)), g < 2 ^ n → card n g ≤ fuel →
      MemoInv omega n memo → FillPost omega n g memo (fillJ omega n fuel g memo) := by
  intro fuel
  induction fuel with
  | zero =>
    intro g memo hg hc hinv
    obtain rfl : g = 0 := (card_eq_zero hg).mp (Nat.le_zero.mp hc)
    exact fillPost_zero omega n 0 memo hinv
  | succ fuel ih =>
    intro g memo hg hc hinv
    by_cases hg0 : g = 0
    · subst hg0
      exact fillPost_zero omega n (fuel + 1) memo hinv
    · rw [fillJ, if_neg (mt (isEmpty_iff g).mp hg0)]
      cases hm : memo.getD g none with
      | some j =>
        have hj := hinv.ok g j hm
        exact ⟨hj, hinv, by rw [hm, hj], fun h hh => hh⟩
      | none =>
        obtain ⟨hv, hi, hmono, hstored⟩ := fill_fold omega n g (fillJ omega n fuel)
          (fun e he m hm => ih (Mask.pop g e) m (Mask.pop_lt_of_mem hg he)
            (Nat.le_of_succ_le_succ (Nat.le_trans (Nat.le_of_eq (card_pop he)) hc)) hm)
          (Mask.edges n g) (-(zero : α)) memo (fun e he => he) hinv
        simp only
        rw [hv, ← List.foldl_map, ← sumIter, ← C04.J_rec omega n g hg hg0]
        refine fillPost_set omega n g memo _ hi hg (fun h hs hne => ?_) hmono
        obtain ⟨e, he, hse⟩ := sub_proper hg hs hne
        exact hi.closed (Mask.pop g e) h (Mask.pop_lt_of_mem hg he) (hstored e he) hse

theorem inv_replicate (omega : Mask → α) (n : Nat) : MemoInv omega n (List.replicate (2 ^ n) none) := by
  have hnone : ∀ g, (List.replicate (2 ^ n) (none : Option α)).getD g none = none := by
    intro g
    rw [List.getD_eq_getElem?_getD, List.getElem?_replicate]
    split <;> rfl
  refine ⟨List.length_replicate, fun g j h => ?_, fun g h _ hs _ => ?_⟩
  · rw [hnone] at h; cases h
  · rw [hnone] at hs; cases hs
