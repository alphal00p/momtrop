import Momtrop.Proofs.Chol
/-!
# Bridge between the list-of-rows model matrices and Mathlib's `Matrix (Fin n) (Fin n) ℝ`
-/
namespace Momtrop
open Scalar

/-- the Mathlib view of a model matrix -/
noncomputable def M (n : Nat) (A : Mat ℝ) : Matrix (Fin n) (Fin n) ℝ := toMatrix n A.get

theorem M_apply (n : Nat) (A : Mat ℝ) (i j : Fin n) : M n A i j = A.get i j := rfl

@[simp] theorem M_ofFn_apply (n : Nat) (f : Nat → Nat → ℝ) (i j : Fin n) :
    M n (Mat.ofFn n f) i j = f i j := by
  rw [M_apply, Mat.ofFn_get n f i.2 j.2]

theorem M_mul (n : Nat) (A B : Mat ℝ) : M n (Mat.mul n A B) = M n A * M n B := by
  ext i j
  unfold Mat.mul
  rw [M_ofFn_apply, sumFrom_range, Finset.sum_range fun k => A.get i.1 k * B.get k j.1]
  rfl

theorem M_add (n : Nat) (A B : Mat ℝ) : M n (Mat.add n A B) = M n A + M n B := by
  ext i j; unfold Mat.add; rw [M_ofFn_apply, Matrix.add_apply, M_apply, M_apply]

theorem M_sub (n : Nat) (A B : Mat ℝ) : M n (Mat.sub n A B) = M n A - M n B := by
  ext i j; unfold Mat.sub; rw [M_ofFn_apply, Matrix.sub_apply, M_apply, M_apply]

theorem M_transpose (n : Nat) (A : Mat ℝ) : M n (Mat.transpose n A) = (M n A).transpose := by
  ext i j; unfold Mat.transpose; rw [M_ofFn_apply, Matrix.transpose_apply, M_apply]

theorem M_identity (n : Nat) : M n (Mat.identity n : Mat ℝ) = 1 := by
  ext i j
  unfold Mat.identity
  rw [M_ofFn_apply, Matrix.one_apply]
  exact if_congr Fin.val_inj rfl rfl

theorem M_zeros (n : Nat) : M n (Mat.zeros n : Mat ℝ) = 0 := by
  ext i j; unfold Mat.zeros; rw [M_ofFn_apply]; rfl

end Momtrop
