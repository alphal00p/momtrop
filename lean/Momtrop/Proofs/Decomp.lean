import Momtrop.Proofs.MatBridge
/-!
# `decompose_for_tropical` in exact arithmetic: `Q⁻¹` by the nilpotent series

For any lower triangular `Q` with diagonal `D ≠ 0` (section `TriInv`): `D⁻¹Q = 1 + N` with `N = nMatrix n Q` strictly lower triangular, so
`Nᵏ = 0` for `k ≥ n` and what the routine forms, `(Σ_{i ≤ numPowers n} (−N)^i) D⁻¹`, is `Q⁻¹` (`inverseQ_mul`). The Cholesky factor is such a `Q`.
-/
namespace Momtrop
open Scalar

section TriInv
variable (n : Nat) (Q : Mat ℝ)

theorem invDiag_getD {r : Nat} (hr : r < n) : (invDiag n Q).getD r zero = (Q.get r r)⁻¹ :=
  getD_map_range n _ hr

theorem M_nMatrix_apply (i j : Fin n) :
    M n (nMatrix n Q) i j = if (j : Nat) < i then (Q.get i i)⁻¹ * Q.get i j else 0 := by
  rw [nMatrix, M_ofFn_apply, invDiag_getD n Q i.2]; rfl

theorem invDiag_mul (hlow : ∀ i j : Fin n, i < j → Q.get i j = 0) (hd : ∀ k : Fin n, Q.get k k ≠ 0) :
    (Matrix.diagonal fun k : Fin n => (invDiag n Q).getD k 0) * M n Q = 1 + M n (nMatrix n Q) := by
  ext i j
  rw [Matrix.diagonal_mul, Matrix.add_apply, Matrix.one_apply, M_nMatrix_apply, M_apply,
    show (invDiag n Q).getD i.1 0 = _ from invDiag_getD n Q i.2]
  rcases lt_trichotomy i j with h | rfl | h
  · rw [hlow i j h, if_neg h.ne, if_neg (Nat.lt_asymm h), add_zero, mul_zero]
  · rw [if_pos rfl, if_neg (lt_irrefl _), add_zero, inv_mul_cancel₀ (hd i)]
  · rw [if_neg h.ne', if_pos (Fin.lt_def.mp h), zero_add]

theorem M_powerN (N : Mat ℝ) (k : Nat) : M n (powerN n N k) = (M n N) ^ (k + 1) := by
  induction k with
  | zero => rw [powerN, pow_one]
  | succ k ih => rw [powerN, M_mul, ih, ← pow_succ]

/-- with the identity added (as `inverse_q` does), the alternating fold `0 − N + N² − …` is the partial Neumann series of `−N` -/
theorem one_add_M_nSum (N : Mat ℝ) (m : Nat) :
    1 + M n (nSum n N m) = ∑ i ∈ Finset.range (m + 1), (-(M n N)) ^ i := by
  unfold nSum
  induction m with
  | zero => rw [List.range_zero, List.foldl_nil, M_zeros, add_zero, Finset.sum_range_one, pow_zero]
  | succ m ih =>
    rw [List.range_succ, List.foldl_append, List.foldl_cons, List.foldl_nil, Finset.sum_range_succ, ← ih]
    by_cases hm : m % 2 = 0
    · simp only [if_pos hm, M_sub, M_powerN, (Nat.even_iff.mpr hm).add_one.neg_pow (M n N), sub_eq_add_neg, add_assoc]
    · simp only [if_neg hm, M_add, M_powerN, (Nat.not_even_iff_odd.mp (mt Nat.even_iff.mp hm)).add_one.neg_pow (M n N), add_assoc]

theorem M_inverseQ (S : Mat ℝ) (d : List ℝ) :
    M n (inverseQ n S d) = (1 + M n S) * Matrix.diagonal fun k : Fin n => d.getD k 0 := by
  ext i j
  rw [inverseQ, M_ofFn_apply, Matrix.mul_diagonal, Matrix.add_apply, Matrix.one_apply, M_apply]
  by_cases h : i = j
  · rw [if_pos h, if_pos (congrArg Fin.val h), add_comm]; rfl
  · rw [if_neg h, if_neg (Fin.val_ne_of_ne h), zero_add]; rfl

theorem strictLower_pow {n : Nat} (N : Matrix (Fin n) (Fin n) ℝ) (h : ∀ i j, i ≤ j → N i j = 0) (k : Nat) :
    ∀ i j : Fin n, (i : Nat) < j + k → (N ^ k) i j = 0 := by
  induction k with
  | zero => exact fun i j hij => pow_zero N ▸ Matrix.one_apply_ne (Fin.ne_of_lt hij)
  | succ k ih =>
    intro i j hij
    rw [pow_succ, Matrix.mul_apply]
    refine Finset.sum_eq_zero fun l _ => ?_
    rcases le_or_gt l j with hl | hl
    · rw [h l j hl, mul_zero]
    · rw [ih i l (hij.trans_le (Nat.succ_add_eq_add_succ j k ▸ Nat.add_le_add_right hl k)), zero_mul]

theorem strictLower_pow_eq_zero {n : Nat} (N : Matrix (Fin n) (Fin n) ℝ) (h : ∀ i j, i ≤ j → N i j = 0)
    {k : Nat} (hk : n ≤ k) : N ^ k = 0 := by
  ext i j
  exact strictLower_pow N h k i j (Nat.lt_add_left _ (i.2.trans_le hk))

theorem inverseQ_mul (hlow : ∀ i j : Fin n, i < j → Q.get i j = 0) (hd : ∀ k : Fin n, Q.get k k ≠ 0) :
    M n (inverseQ n (nSum n (nMatrix n Q) (numPowers n)) (invDiag n Q)) * M n Q = 1 := by
  have hN : (-(M n (nMatrix n Q))) ^ (numPowers n + 1) = 0 :=
    strictLower_pow_eq_zero _ (fun i j h => by rw [Matrix.neg_apply, M_nMatrix_apply, if_neg (not_lt.mpr (Fin.le_def.mp h)), neg_zero])
      (Nat.sub_le_iff_le_add.mp (le_max_left (n - 1) 1))
  rw [M_inverseQ, one_add_M_nSum, Matrix.mul_assoc, invDiag_mul n Q hlow hd, ← sub_neg_eq_add 1 (M n (nMatrix n Q)),
    geom_sum_mul_neg, hN, sub_zero]

end TriInv

section
variable (A : Mat ℝ) (n : Nat)

theorem cholQ_get {i j : Nat} (hi : i < n) (hj : j < n) : (cholQ A n).get i j = q A n i j :=
  Mat.ofFn_get n _ hi hj

/-- the Cholesky factor as a Mathlib matrix -/
noncomputable def QM : Matrix (Fin n) (Fin n) ℝ := M n (cholQ A n)

theorem QM_apply (i j : Fin n) : QM A n i j = q A n i j := by
  rw [QM, M_apply, cholQ_get A n i.2 j.2]

theorem QM_eq_toMatrix : QM A n = toMatrix n (q A n) := by
  ext i j; rw [QM_apply, toMatrix, Matrix.of_apply]

theorem detQ_eq : detQ n (cholQ A n) = ∏ k : Fin n, q A n k k := by
  rw [detQ, mulFold_eq, list_prod_range_eq, Finset.prod_range, one_real, one_mul]
  exact Finset.prod_congr rfl fun k _ => cholQ_get A n k.2 k.2

/-- the computed `inverse_q` as a Mathlib matrix -/
noncomputable def IQ : Matrix (Fin n) (Fin n) ℝ :=
  M n (inverseQ n (nSum n (nMatrix n (cholQ A n)) (numPowers n)) (invDiag n (cholQ A n)))

theorem IQ_mul_QM (hp : PivotsPos A n) : IQ A n * QM A n = 1 :=
  inverseQ_mul n (cholQ A n) (fun i j h => by rw [cholQ_get A n i.2 j.2, q_upper A n h j.2])
    fun k => by rw [cholQ_get A n k.2 k.2]; exact (q_diag_pos A n k.2 (hp k.1 k.2)).ne'

theorem QM_mul_IQ (hp : PivotsPos A n) : QM A n * IQ A n = 1 :=
  mul_eq_one_comm.mp (IQ_mul_QM A n hp)

theorem QM_mul_transpose (hp : PivotsPos A n) (hs : SymmOn A n) :
    QM A n * (QM A n).transpose = M n A := by
  rw [QM_eq_toMatrix]; exact chol_mul_transpose A n hp hs

end
end Momtrop
