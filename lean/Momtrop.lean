-- Root of the `Momtrop` library: model, proofs and property theorems.
import Momtrop.Model.Sample
import Momtrop.Model.Gamma
import Momtrop.Model.Serde
import Momtrop.Props.C01
import Momtrop.Props.C01Sector
import Momtrop.Props.C01Table
import Momtrop.Props.C02
import Momtrop.Props.C02U
import Momtrop.Props.C03
import Momtrop.Props.C03R
import Momtrop.Props.C04
import Momtrop.Props.C05
import Momtrop.Props.C05R
import Momtrop.Props.C06
import Momtrop.Props.C06R
import Momtrop.Props.C07
import Momtrop.Props.C07Attain
import Momtrop.Props.C07Forest
import Momtrop.Props.C07Greedy
import Momtrop.Props.C07Major
import Momtrop.Props.C07Polytope
import Momtrop.Props.C07Run
import Momtrop.Props.C07Sector
import Momtrop.Props.C08
import Momtrop.Props.C09
import Momtrop.Props.C10
import Momtrop.Props.C10Law
import Momtrop.Props.C11
import Momtrop.Props.C12
import Momtrop.Props.C12Mono
import Momtrop.Props.C13
import Momtrop.Props.C13BM
import Momtrop.Props.C13Joint
import Momtrop.Props.C14
import Momtrop.Props.C15
import Momtrop.Props.C16
import Momtrop.Props.C17
import Momtrop.Props.C18
import Momtrop.Props.C18G
import Momtrop.Props.C19
import Momtrop.Props.C20
